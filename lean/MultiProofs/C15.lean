/-
  C15 — FFTW adaptor equals the direct DFT on any strided views and dimension subset.

  The coefficient type `R` is arbitrary (only `+`, `*`, `0`, `1` are used by the main theorem) and the twiddle family
  `ω N k` is abstract: the statement is pure index bookkeeping, it does not depend on what FFTW's `exp(2πi k/N)` is.
  What is TRUSTED is the contract `GuruPost` of FFTW's guru interface (MultiModel/Fftw.lean): each output location
  holds `Σ_n in[n,b]·Π_d ω(N_d, sign·j_d·n_d)` of the pre-state and nothing else changes.
-/
import MultiProofs.FftRoundtrip

namespace Multi
namespace C15

section
variable {R : Type} [Add R] [Mul R] [OfNat R 0] [OfNat R 1]

/-- the guru call built for `(mask, vin, vout, sign)`: sizes and both stride lists of exactly the masked dimensions go
    to `dims`, those of the others to `howmany_dims`, each size paired with its own two strides -/
theorem plan_fields (mask : List Bool) (vin vout : View) (sign : Int)
    (hsz : vout.lay.sizes = vin.lay.sizes) (hmask : mask.length = vin.lay.length) :
    let c := dft mask vin vout sign
    c.ns = pick mask vin.lay.sizes ∧ c.bs = pickN mask vin.lay.sizes ∧
    c.dims.map IoDim.is = pick mask vin.lay.strides ∧ c.dims.map IoDim.os = pick mask vout.lay.strides ∧
    c.howmany.map IoDim.is = pickN mask vin.lay.strides ∧ c.howmany.map IoDim.os = pickN mask vout.lay.strides ∧
    c.inp = vin.base ∧ c.out = vout.base ∧ c.sign = sign ∧ c.flags = FFTW_ESTIMATE + FFTW_PRESERVE_INPUT := by
  intro c
  have hl : vout.lay.length = vin.lay.length := by
    have := congrArg List.length hsz; simpa [Layout.sizes] using this
  obtain ⟨p1, p2, p3, p4, p5, p6⟩ := planZip_partition mask vin.lay.sizes vin.lay.strides vout.lay.strides
    (by simp [Layout.sizes, hmask]) (by simp [Layout.strides, hmask]) (by simp [Layout.strides, hmask, hl])
  simp only [c, dft, planDft, GuruCall.ns, GuruCall.bs, List.map_map]
  exact ⟨p1, p4, p2, p3, p5, p6, trivial, trivial, trivial, trivial⟩

/-- **C15, main statement.**  For every D, mask, sign and pair of well-formed views of equal extents — any strides,
    in-place included — the post-state of the call built by `fftw_plan_dft` is the logical DFT of the VIEW along exactly
    the masked dimensions (batched over the others), and memory off the image of the output view is unchanged. -/
theorem plan_is_logical_dft (ω : Int → Int → R) (mask : List Bool) (sign : Int) (vin vout : View)
    (hin : vin.lay.WF) (hout : vout.lay.WF) (hext : vin.exts = vout.exts) (hmask : mask.length = vin.lay.length)
    (mem mem' : Int → R) (hpost : GuruPost ω (dft mask vin vout sign) mem mem') :
    (∀ idx, InBox vout.exts idx → mem' (vout.addr idx) = logicalDft ω mask sign vin mem idx) ∧
    (∀ a, (∀ idx, InBox vout.exts idx → a ≠ vout.addr idx) → mem' a = mem a) := by
  have hszi : vin.lay.sizes = vin.exts.map Ext.size := (C01.shape_functions_agree vin hin).1
  have hszo : vout.lay.sizes = vout.exts.map Ext.size := (C01.shape_functions_agree vout hout).1
  have hsz : vout.lay.sizes = vin.lay.sizes := by rw [hszi, hszo, hext]
  have hlen : vout.lay.length = vin.lay.length := by
    have := congrArg List.length hsz; simpa [Layout.sizes] using this
  obtain ⟨f1, f2, f3, f4, f5, f6, f7, f8, f9, _⟩ := plan_fields mask vin vout sign hsz hmask
  have hml : mask.length = (vin.exts.map Ext.size).length := by simp [View.exts, Layout.exts, hmask]
  rw [hszi] at f1 f2
  rw [← hext]
  -- the address of a tuple of the box is the guru address of the (masked, unmasked) parts of its relative indices
  have outaddr : ∀ r, InRange (vin.exts.map Ext.size) r →
      vout.addr (absIdx vin.exts r) = (dft mask vin vout sign).outAddr (pick mask r) (pickN mask r) := by
    intro r hr
    rw [GuruCall.outAddr, f4, f6, f8, hext, addr_abs mask vout hout (by omega) r (hext ▸ hr)]
  have inaddr : ∀ r, InRange (vin.exts.map Ext.size) r →
      vin.addr (absIdx vin.exts r) = (dft mask vin vout sign).inAddr (pick mask r) (pickN mask r) := by
    intro r hr
    rw [GuruCall.inAddr, f3, f5, f7, addr_abs mask vin hin hmask r hr]
  constructor
  · intro idx hidx
    have hr := inBox_rel vin.exts idx hidx
    obtain ⟨rj, rb⟩ := inRange_pick mask _ _ hml hr
    have hv := hpost.1 _ _ (f1 ▸ rj) (f2 ▸ rb)
    rw [← outaddr _ hr, abs_rel vin.exts idx (inBox_length hidx)] at hv
    rw [hv]
    -- both sides are the same sum, term by term
    simp only [GuruCall.value, logicalDft, f1, f9]
    apply sumBox_congr
    intro n hn
    obtain ⟨s0, s1, s2⟩ := subst_spec mask _ _ n hml hr hn
    rw [inaddr _ s0, s1, s2]
  · intro a ha
    apply hpost.2
    intro j b hj hb
    obtain ⟨m1, m2, m3⟩ := merge_spec mask _ j b hml (f1 ▸ hj) (f2 ▸ hb)
    have := ha _ (inRange_abs vin.exts _ m1)
    rwa [outaddr _ m1, m2, m3] at this

/-- **a distinct input is left unchanged**: if no element of the input view is an element of the output view, every
    input element has its old value after the call -/
theorem input_preserved (ω : Int → Int → R) (mask : List Bool) (sign : Int) (vin vout : View)
    (hin : vin.lay.WF) (hout : vout.lay.WF) (hext : vin.exts = vout.exts) (hmask : mask.length = vin.lay.length)
    (mem mem' : Int → R) (hpost : GuruPost ω (dft mask vin vout sign) mem mem')
    (hdisj : ∀ i o, InBox vin.exts i → InBox vout.exts o → vin.addr i ≠ vout.addr o) :
    ∀ idx, InBox vin.exts idx → mem' (vin.addr idx) = mem (vin.addr idx) := by
  intro idx hidx
  exact (plan_is_logical_dft ω mask sign vin vout hin hout hext hmask mem mem' hpost).2 _ (fun o ho => hdisj idx o hidx ho)

end

section
open Lean.Grind
variable {R : Type} [CommRing R]

/-- **forward followed by backward multiplies every element by the number of transformed points.**
    `vin --(mask, s)--> vmid --(mask, −s)--> vout`, any three well-formed views of equal extents (they may coincide:
    in-place), `ω` orthogonal for the transformed sizes (as `exp(2πi k/N)` is): every element of `vout` is
    `(Π_{d masked} N_d) ·` the element of `vin` at the same index tuple (`N` in `R` is `1 + … + 1`). -/
theorem roundtrip_scales (ω : Int → Int → R) (mask : List Bool) (s : Int) (vin vmid vout : View)
    (h1 : vin.lay.WF) (h2 : vmid.lay.WF) (h3 : vout.lay.WF) (e1 : vin.exts = vmid.exts) (e2 : vmid.exts = vout.exts)
    (hmask : mask.length = vin.lay.length)
    (horth : ∀ N ∈ pick mask (vin.exts.map Ext.size), Orth ω s N)
    (mem mem' mem'' : Int → R)
    (hF : GuruPost ω (dft mask vin vmid s) mem mem')
    (hB : GuruPost ω (dft mask vmid vout (-s)) mem' mem'') :
    ∀ idx, InBox vout.exts idx →
      mem'' (vout.addr idx) = cntBox (pick mask (vin.exts.map Ext.size)) * mem (vin.addr idx) := by
  intro idx hidx
  have hlm : vmid.lay.length = vin.lay.length := by
    have := congrArg List.length e1; simp [View.exts, Layout.exts] at this; omega
  obtain ⟨F, _⟩ := plan_is_logical_dft ω mask s vin vmid h1 h2 e1 hmask mem mem' hF
  obtain ⟨B, _⟩ := plan_is_logical_dft ω mask (-s) vmid vout h2 h3 e2 (by omega) mem' mem'' hB
  rw [B idx hidx]
  rw [← e2] at hidx
  rw [e1] at horth ⊢
  have hml : mask.length = (vmid.exts.map Ext.size).length := by simp [View.exts, Layout.exts]; omega
  have hr := inBox_rel vmid.exts idx hidx
  simp only [logicalDft]
  -- every term of the outer sum is a forward transform
  have inner : ∀ k, InRange (pick mask (vmid.exts.map Ext.size)) k →
      mem' (vmid.addr (absIdx vmid.exts (subst mask (relIdx vmid.exts idx) k)))
        = sumBox (pick mask (vmid.exts.map Ext.size)) (fun n =>
            mem (vin.addr (absIdx vmid.exts (subst mask (relIdx vmid.exts idx) n))) * twiddle ω s (pick mask (vmid.exts.map Ext.size)) k n) := by
    intro k hk
    obtain ⟨s0, s1, _⟩ := subst_spec mask _ _ k hml hr hk
    rw [F _ (inRange_abs vmid.exts _ s0)]
    simp only [logicalDft]
    rw [e1, rel_abs vmid.exts _ (by rw [inRange_length s0, List.length_map]), s1]
    apply sumBox_congr
    intro n _
    rw [subst_subst mask _ _ k n hml hr hk]
  rw [sumBox_congr _ (fun k hk => by rw [inner k hk]),
    dft_inversion ω s _ horth (fun n => mem (vin.addr (absIdx vmid.exts (subst mask (relIdx vmid.exts idx) n)))) _
      (inRange_pick mask _ _ hml hr).1,
    subst_pick mask _ (by rw [inRange_length hr, hml]), abs_rel _ _ (inBox_length hidx)]

end

/-- the front ends are `dft` with the documented sign / with the output equal to the input -/
theorem front_ends (mask : List Bool) (vin vout : View) :
    dftForward mask vin vout = dft mask vin vout (-1) ∧ dftBackward mask vin vout = dft mask vin vout 1 ∧
    (∀ s, dftInPlace mask vin s = dft mask vin vin s) := ⟨rfl, rfl, fun _ => rfl⟩

/-! non-vacuity: a rotated 2×3×4 sub-block into a transposed block, mask (1,0,1) -/
example : ∃ vin vout : View, vin.lay.WF ∧ vout.lay.WF ∧ vin.exts = vout.exts ∧ vin.exts = [⟨0, 3⟩, ⟨0, 4⟩, ⟨0, 2⟩] ∧
    (dft [true, false, true] vin vout (-1)).dims = [⟨3, 4, 2⟩, ⟨2, 12, 1⟩] ∧
    (dft [true, false, true] vin vout (-1)).howmany = [⟨4, 1, 6⟩] := by
  refine ⟨(⟨0, Layout.ofExts [⟨0, 2⟩, ⟨0, 3⟩, ⟨0, 4⟩]⟩ : View).rotated, (⟨100, Layout.ofExts [⟨0, 4⟩, ⟨0, 3⟩, ⟨0, 2⟩]⟩ : View).transposed, ?_, ?_, by decide +kernel, by decide +kernel, by decide +kernel, by decide +kernel⟩
  · have := (C01.root_denotes [⟨0, 2⟩, ⟨0, 3⟩, ⟨0, 4⟩] (by decide)).1
    exact (C01.op_refines Op.rotated ⟨0, _⟩ this trivial).1
  · have := (C01.root_denotes [⟨0, 4⟩, ⟨0, 3⟩, ⟨0, 2⟩] (by decide)).1
    exact (C01.op_refines Op.transposed ⟨100, _⟩ this (by decide)).1

/-! non-vacuity of the orthogonality hypothesis: over `Int`, `ω N k = (−1)^k` is orthogonal for `N = 2` (the DFT of size 2) -/
example : Orth (R := Int) (fun _ k => if k % 2 = 0 then 1 else -1) (-1) 2 := by
  intro j n hj hn
  have hj' : j = 0 ∨ j = 1 := by omega
  have hn' : n = 0 ∨ n = 1 := by omega
  rcases hj' with rfl | rfl <;> rcases hn' with rfl | rfl <;> decide

end C15
end Multi
