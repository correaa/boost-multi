/-
  C19 — Index bases are transparent: re-based arrays act as shifted zero-based ones.

  The theorems of C01 and C02 are stated for arbitrary index bases (`Dim.WF` allows any offset that is a
  multiple of the stride; `rowMajor`/`InBox` subtract the first index), so every operation of C01, the iterators
  and `elements()` of C02 are already proved for re-based arrays.  This file adds what is specific to C19:
    * an array built from explicit index extensions addresses its elements like the zero-based array of the
      same sizes at indices shifted by the bases (`rebased_root_is_shifted`);
    * `reindexed(b…)` changes only which indices are valid, never which elements are viewed
      (`reindexed_refines`), `blocked(a, b)` keeps the original indices (`blocked_refines`);
    * `elements()` of a re-indexed view is *identical* to that of the original (`elements_rebase_invariant`).
-/
import MultiProofs.C02

namespace Multi
namespace C19

def zeroed (es : List Ext) : List Ext := es.map fun e => ⟨0, e.size⟩
def unshift : List Ext → List Int → List Int
  | e :: es, i :: is => (i - e.first) :: unshift es is
  | _, _ => []

theorem nElems_zeroed (es : List Ext) : nElems (zeroed es) = nElems es := by
  induction es with
  | nil => rfl
  | cons e es ih => simp only [zeroed, List.map_cons, nElems] at ih ⊢; rw [ih]; simp [Ext.size]

theorem unshift_box {es : List Ext} {idx : List Int} (h : InBox es idx) :
    InBox (zeroed es) (unshift es idx) ∧ rowMajor (zeroed es) (unshift es idx) = rowMajor es idx := by
  induction es generalizing idx with
  | nil => cases idx <;> simp_all [InBox, zeroed, unshift, rowMajor]
  | cons e es ih =>
    obtain ⟨t, r, rfl, h1, h2, h3⟩ := inBox_cons h
    obtain ⟨i1, i2⟩ := ih h3
    refine ⟨⟨⟨Int.sub_nonneg.mpr h1, Int.sub_lt_sub_right h2 _⟩, i1⟩, ?_⟩
    show (t - e.first - 0) * nElems (zeroed es) + rowMajor (zeroed es) (unshift es r) = (t - e.first) * nElems es + _
    rw [nElems_zeroed, i2, Int.sub_zero]

/-- An array constructed from explicit index extensions addresses its elements exactly like the zero-based
    array of the same sizes at the indices shifted by the bases. -/
theorem rebased_root_is_shifted (es : List Ext) (hes : ∀ e ∈ es, e.first ≤ e.last) (idx : List Int)
    (h : InBox (Layout.ofExts es).exts idx) :
    Layout.off (Layout.ofExts es) idx = Layout.off (Layout.ofExts (zeroed es)) (unshift es idx) ∧
    InBox (Layout.ofExts (zeroed es)).exts (unshift es idx) := by
  obtain ⟨_, r2, _, r4⟩ := C01.root_denotes es hes
  have hz : ∀ e ∈ zeroed es, e.first ≤ e.last := by
    intro e he
    simp only [zeroed, List.mem_map] at he
    obtain ⟨x, hx, rfl⟩ := he
    have := hes x hx; simp [Ext.size]; omega
  obtain ⟨_, z2, _, z4⟩ := C01.root_denotes (zeroed es) hz
  rw [r2] at h
  -- a box with an index tuple is not collapsed, nor is the zero-based box of the same sizes
  have hne := nElems_ne_zero_of_inBox _ idx (inBox_of_collapse idx h)
  obtain ⟨b2, b3⟩ := unshift_box (inBox_of_collapse idx h)
  have hc : collapse (zeroed es) = zeroed es := collapse_of_ne_zero _ (nElems_zeroed es ▸ hne)
  rw [(r4 idx h).1, z2, hc, (z4 _ (by rw [hc]; exact b2)).1, b3]
  exact ⟨rfl, b2⟩

theorem reindexed_eq (v : View) (bs : List Int) : v.reindexed bs = ⟨v.base, v.lay.reindex bs⟩ := by
  induction bs generalizing v with
  | nil => rfl
  | cons b rest ih =>
    cases rest with
    | nil => rfl
    | cons c rest' => simp only [View.reindexed, Layout.reindex]; rw [ih]; rfl

def shiftShape : List Ext → List Int → List Ext
  | e :: es, b :: bs => (if e.size = 0 then ⟨0, 0⟩ else ⟨b, b + e.size⟩) :: shiftShape es bs
  | es, _ => es

def shiftMap : List Ext → List Int → List Int → List Int
  | e :: es, b :: bs, t :: r => (t - b + e.first) :: shiftMap es bs r
  | _, _, idx => idx

theorem shiftShape_nil (es : List Ext) : shiftShape es [] = es := by cases es <;> rfl
theorem shiftMap_nil (es : List Ext) (idx : List Int) : shiftMap es [] idx = idx := by cases es <;> cases idx <;> rfl

/-- one level re-based at `b`: its extension starts at `b`, and index `t` has the displacement that
    `t − b + first` had -/
theorem rebase_level {d : Dim} (h : d.WF) (b : Int) :
    ({ d with offset := b * d.stride } : Dim).WF ∧
    ({ d with offset := b * d.stride } : Dim).ext = (if d.ext.size = 0 then ⟨0, 0⟩ else ⟨b, b + d.ext.size⟩) ∧
    ∀ t, b ≤ t → t < b + d.ext.size →
      t * d.stride - b * d.stride = (t - b + d.ext.first) * d.stride - d.offset ∧
      d.ext.first ≤ t - b + d.ext.first ∧ t - b + d.ext.first < d.ext.last := by
  by_cases h0 : d.nelems = 0
  · have hd0 : d.ext = ⟨0, 0⟩ := Dim.ext_of_nelems_zero h0
    refine ⟨Or.inl h0, ?_, ?_⟩
    · rw [hd0, Dim.ext_of_nelems_zero (d := { d with offset := b * d.stride }) h0]; rfl
    · intro t h1 h2; rw [hd0] at h2; simp only [Ext.size] at h2; omega
  · have hn := h.size_pos h0
    obtain ⟨w, e⟩ := Dim.wf_ext_mk (f := b) (h.stride_pos h0) h.size_nonneg
    rw [← h.nelems_eq] at w e
    rw [h.size_eq] at e hn
    refine ⟨w, by rw [e, norm_of_pos hn, if_neg (Int.ne_of_gt hn)], fun t h1 h2 => ?_⟩
    rw [h.offset_eq h0, h.ext_last, h.size_eq]
    exact ⟨by rw [Int.add_mul, Int.sub_mul, Int.add_sub_cancel], by omega, by omega⟩

theorem reindex_refines (l : Layout) (bs : List Int) (hwf : l.WF) (hlen : bs.length ≤ l.length) :
    (Layout.reindex l bs).WF ∧ Layout.exts (Layout.reindex l bs) = shiftShape l.exts bs ∧
    ∀ idx, InBox (shiftShape l.exts bs) idx →
      Layout.off (Layout.reindex l bs) idx = Layout.off l (shiftMap l.exts bs idx) ∧ InBox l.exts (shiftMap l.exts bs idx) := by
  induction bs generalizing l with
  | nil =>
    refine ⟨hwf, (shiftShape_nil _).symm, fun idx h => ?_⟩
    rw [shiftMap_nil]; rw [shiftShape_nil] at h; exact ⟨rfl, h⟩
  | cons b bs ih =>
    cases l with
    | nil => simp at hlen
    | cons d l =>
      have hlen' : bs.length ≤ l.length := by simpa using hlen
      obtain ⟨i1, i2, i3⟩ := ih l hwf.tail hlen'
      obtain ⟨r1, r2, r3⟩ := rebase_level hwf.head b
      rw [reindex_cons d l b bs hlen']
      refine ⟨Layout.WF.cons r1 i1, by simp only [Layout.exts, List.map_cons] at i2 ⊢; rw [r2, i2]; rfl, ?_⟩
      intro idx h
      obtain ⟨t, r, rfl, h1, h2, h3⟩ := inBox_cons h
      obtain ⟨a1, a2⟩ := i3 r h3
      have hbox : b ≤ t ∧ t < b + d.ext.size := by
        by_cases hz : d.ext.size = 0
        · rw [if_pos hz] at h1 h2; exact absurd h2 (Int.not_lt.mpr h1)
        · rw [if_neg hz] at h1 h2; exact ⟨h1, h2⟩
      obtain ⟨e1, e2, e3⟩ := r3 t hbox.1 hbox.2
      exact ⟨by show _ + _ = _ + _; rw [a1]; exact congrArg (· + _) e1, ⟨⟨e2, e3⟩, a2⟩⟩

/-- `reindexed(b…)` changes only which indices are valid, never which elements are viewed:
    index `t` of the re-indexed view is index `t − b + first` of the original in every re-indexed dimension. -/
theorem reindexed_refines (v : View) (bs : List Int) (hwf : v.lay.WF) (h : bs.length ≤ v.lay.length) :
    Refines v (v.reindexed bs) (shiftShape v.exts bs) (shiftMap v.exts bs) := by
  rw [reindexed_eq v bs]
  obtain ⟨a, b, c⟩ := reindex_refines v.lay bs hwf h
  refine ⟨a, b, ?_⟩
  intro idx hidx
  obtain ⟨c1, c2⟩ := c idx hidx
  rw [addr_eq, addr_eq]
  exact ⟨by rw [c1]; rfl, c2⟩

/-- `blocked(a, b)` = `sliced(a, b).reindexed(a)`: the block keeps the original indices `[a, b)` -/
theorem blocked_refines (v : View) (a b : Int) (hwf : v.lay.WF) (hd : (Op.sliced a b).InDomain v) (hab : a < b) :
    Refines v (v.blocked a b) (⟨a, b⟩ :: v.exts.tail) (fun idx => idx) := by
  have r1 := sliced_refines v a b hwf hd
  obtain ⟨d, sub, hv⟩ := List.exists_cons_of_ne_nil hd.1
  rw [View.exts_cons hv] at r1 ⊢
  simp only [Op.specShape, norm_of_pos (Int.sub_pos_of_lt hab)] at r1
  have hlen : [a].length ≤ (v.sliced a b).lay.length := by
    have := congrArg List.length r1.2.1
    simp only [View.exts, Layout.exts, List.length_map, List.length_cons] at this
    rw [this]; exact Nat.le_add_left 1 _
  have r2 := reindexed_refines (v.sliced a b) [a] r1.1 hlen
  rw [r1.2.1] at r2
  have hsz : (⟨d.ext.first, d.ext.first + (b - a)⟩ : Ext).size ≠ 0 := by
    show d.ext.first + (b - a) - d.ext.first ≠ 0; omega
  refine (r1.trans r2).congr ?_ ?_
  · show (if _ then _ else _) :: shiftShape _ [] = _
    rw [if_neg hsz, shiftShape_nil]
    exact congrArg (fun l => (⟨a, l⟩ : Ext) :: _) (by show a + (d.ext.first + (b - a) - d.ext.first) = b; omega)
  · intro idx hidx
    obtain ⟨t, r, rfl, _, _, _⟩ := inBox_cons hidx
    show (a + (t - a + d.ext.first - d.ext.first)) :: shiftMap _ [] r = t :: r
    rw [shiftMap_nil]
    exact congrArg (· :: r) (by omega)

/-- `elements()` of a re-indexed view is the very same range as that of the original view:
    same base, same (zero-based) layout — hence the same elements in the same order (C02). -/
theorem elements_rebase_invariant (v : View) (bs : List Int) (h : bs.length ≤ v.lay.length) :
    ElemRange.ofView (v.reindexed bs) = ElemRange.ofView v := by
  rw [reindexed_eq v bs, ofView_eq, ofView_eq]
  congr 1
  generalize v.lay = l at h
  induction bs generalizing l with
  | nil => rfl
  | cons b bs ih =>
    cases l with
    | nil => simp at h
    | cons d l =>
      have h' : bs.length ≤ l.length := by simpa using h
      rw [reindex_cons d l b bs h']
      exact congrArg (_ :: ·) (ih l h')

/-- every view reachable from a re-based root by C01's operations denotes the composed mapping and stays in
    bounds — `C01.reachable_denotes` / `reachable_in_bounds` instantiated at arbitrary index bases -/
theorem ops_rebase_transparent (base : Int) (es : List Ext) (hes : ∀ e ∈ es, e.first ≤ e.last)
    (v : View) (den : Den) (h : Reach ⟨base, Layout.ofExts es⟩ v den) :
    Refines ⟨base, Layout.ofExts es⟩ v den.shape den.map ∧
    ∀ idx, InBox den.shape idx → base ≤ v.addr idx ∧ v.addr idx < base + nElems es :=
  ⟨C01.reachable_denotes _ v den (C01.root_denotes es hes).1 h, fun idx hidx => C01.reachable_in_bounds base es hes v den h idx hidx⟩

/-! non-vacuity: a [2,8) array sliced at [3,6) -/
example : (Op.sliced 3 6).InDomain ⟨0, Layout.ofExts [⟨2, 8⟩]⟩ := by decide +kernel
example : (View.sliced ⟨0, Layout.ofExts [⟨2, 8⟩]⟩ 3 6).addr [2] = 1 := by decide +kernel

end C19
end Multi
