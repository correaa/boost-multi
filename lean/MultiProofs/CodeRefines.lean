/-
  MultiProofs.CodeRefines — the refinement theorem of C01 stated DIRECTLY about the definitions regenerated from the
  current headers (`MultiModel/Gen/LayoutGen.lean`): every view-forming operation, as the source computes it today,
  refines its documented shape / index map.  Obtained from `C01.op_refines` (about the hand model) through the tie
  theorems of `GenTie.lean`; so for these operations the chain  source text → regenerated Lean → theorem  has no
  hand-transcription step left other than the translator itself.
-/
import MultiProofs.C01
import MultiProofs.GenTie

namespace Multi.CodeRefines
open Multi Multi.Gen

/-- the operations of C01 as the D > 1 class `const_subarray<T, D>` computes them in the current source (the regenerated
    `_aux_` bodies); the call syntax goes through the dispatcher tied by `GenTie.paren_dispatch_is_the_code` -/
def applyD : Op → View → View
  | .index i, v => V_at_aux v i
  | .sliced a b, v => V_sliced_aux v a b
  | .range a b, v => V_range v ⟨a, b⟩
  | .strided s, v => V_strided_aux v s
  | .dropped n, v => V_dropped_aux v n
  | .taked n, v => V_taked_aux v n
  | .rotated, v => V_rotated_aux v
  | .unrotated, v => V_unrotated_aux v
  | .transposed, v => V_transposed_aux v
  | .reversed, v => V_reversed_aux v
  | .diagonal, v => V_diagonal_aux v
  | .partitioned n, v => V_partitioned_aux v n
  | .chunked c, v => V_chunked_aux v c
  | .flatted, v => V_flatted v
  | .call args, v => v.paren args

/-- the same for the D = 1 specialisation `const_subarray<T, 1>` (operations it does not have are left to the model) -/
def apply1 : Op → View → View
  | .index i, v => V1_at_aux v i
  | .sliced a b, v => V1_sliced_aux v a b
  | .range a b, v => V1_range v ⟨a, b⟩
  | .strided s, v => V1_strided_aux v s
  | .dropped n, v => V1_dropped_aux v n
  | .taked n, v => V1_taked_aux v n
  | .reversed, v => V1_reversed_aux v
  | .partitioned n, v => V1_partitioned_aux v n
  | .chunked c, v => V1_chunked_aux v c
  | op, v => op.apply v

theorem applyD_eq (op : Op) (b : Int) (d d1 : Dim) (sub : Layout) :
    applyD op ⟨b, d :: d1 :: sub⟩ = op.apply ⟨b, d :: d1 :: sub⟩ := by
  cases op with
  | index i => exact GenTie.V_at_aux_tie b d d1 sub i
  | sliced a c => exact GenTie.V_sliced_aux_tie b d d1 sub a c
  | range a c => exact GenTie.V_range_tie _ ⟨a, c⟩
  | strided s => exact GenTie.V_strided_aux_tie b d d1 sub s
  | dropped n => exact GenTie.V_dropped_aux_tie b d d1 sub n
  | taked n => exact GenTie.V_taked_aux_tie b d d1 sub n
  | diagonal => exact GenTie.diagonal_is_the_code b d d1 sub
  | partitioned n => exact GenTie.V_partitioned_aux_tie b d d1 sub n
  | chunked c => exact GenTie.V_chunked_aux_tie b d d1 sub c
  | flatted => exact GenTie.V_flatted_tie b d d1 sub
  | _ => rfl

theorem apply1_eq (op : Op) (b : Int) (d : Dim) : apply1 op ⟨b, [d]⟩ = op.apply ⟨b, [d]⟩ := by
  cases op with
  | index i => exact GenTie.V1_at_aux_tie b d i
  | sliced a c => exact GenTie.V1_sliced_aux_tie b d a c
  | range a c => exact GenTie.V1_range_tie _ ⟨a, c⟩
  | strided s => exact GenTie.V1_strided_aux_tie b d s
  | dropped n => exact GenTie.V1_dropped_aux_tie b d n
  | taked n => exact GenTie.V1_taked_aux_tie b d n
  | partitioned n => exact GenTie.V1_partitioned_aux_tie b d n
  | chunked c => exact GenTie.V1_chunked_aux_tie b d c
  | _ => rfl

/-- **C01 on the regenerated code**: for a well-formed view with at least two levels (the D > 1 class) every in-domain
    operation, computed as the current source computes it, has the documented shape and designates the documented elements -/
theorem code_op_refines (op : Op) (b : Int) (d d1 : Dim) (sub : Layout)
    (hwf : Layout.WF (d :: d1 :: sub)) (hd : op.InDomain ⟨b, d :: d1 :: sub⟩) :
    Refines ⟨b, d :: d1 :: sub⟩ (applyD op ⟨b, d :: d1 :: sub⟩)
      (op.specShape (View.mk b (d :: d1 :: sub)).exts) (op.specMap (View.mk b (d :: d1 :: sub)).exts) := by
  rw [applyD_eq]
  exact C01.op_refines op _ hwf hd

/-- the same for one-dimensional views (the D = 1 specialisation) -/
theorem code_op_refines_1d (op : Op) (b : Int) (d : Dim) (hwf : Layout.WF [d]) (hd : op.InDomain ⟨b, [d]⟩) :
    Refines ⟨b, [d]⟩ (apply1 op ⟨b, [d]⟩) (op.specShape (View.mk b [d]).exts) (op.specMap (View.mk b [d]).exts) := by
  rw [apply1_eq]
  exact C01.op_refines op _ hwf hd

end Multi.CodeRefines
