/-
  MultiProofs.Perm — rotated, unrotated, transposed, reversed permute the dimensions.
-/
import MultiProofs.Ops

namespace Multi

theorem off_append_append (l l' : Layout) (r r' : List Int) (h : r.length = l.length) :
    Layout.off (l ++ l') (r ++ r') = Layout.off l r + Layout.off l' r' := by
  induction l generalizing r with
  | nil => rw [List.eq_nil_of_length_eq_zero h]; exact (Int.zero_add _).symm
  | cons d0 l ih =>
    cases r with
    | nil => exact absurd h (by simp)
    | cons t0 r =>
      show _ + Layout.off (l ++ l') (r ++ r') = _ + Layout.off l r + _
      rw [ih r (Nat.succ.inj h), Int.add_assoc]

theorem off_append (l : Layout) (d : Dim) (r : List Int) (t : Int) (h : r.length = l.length) :
    Layout.off (l ++ [d]) (r ++ [t]) = Layout.off l r + (t * d.stride - d.offset) := by
  rw [off_append_append l [d] r [t] h]
  exact congrArg (_ + ·) (Int.add_zero _)

theorem inBox_append {es : List Ext} {e : Ext} {r : List Int} {t : Int} :
    InBox (es ++ [e]) (r ++ [t]) ↔ (InBox es r ∧ e.first ≤ t ∧ t < e.last) := by
  induction es generalizing r with
  | nil =>
    cases r with
    | nil => simp [InBox]
    | cons a r => cases r <;> simp [InBox]
  | cons e0 es ih =>
    cases r with
    | nil => cases es <;> simp [InBox]
    | cons a r =>
      simp only [List.cons_append, InBox]
      rw [ih]
      constructor
      · rintro ⟨h1, h2, h3⟩; exact ⟨⟨h1, h2⟩, h3⟩
      · rintro ⟨⟨h1, h2⟩, h3⟩; exact ⟨h1, h2, h3⟩

theorem inBox_snoc_split {es : List Ext} {e : Ext} {idx : List Int} (h : InBox (es ++ [e]) idx) :
    ∃ r t, idx = r ++ [t] := by
  have hl := inBox_length h
  rcases List.eq_nil_or_concat idx with h0 | ⟨r, t, h1⟩
  · subst h0; simp at hl
  · exact ⟨r, t, by rw [h1, List.concat_eq_append]⟩

theorem wf_append {l : Layout} {d : Dim} (h : Layout.WF (l ++ [d])) : Layout.WF l ∧ d.WF :=
  ⟨fun x hx => h x (List.mem_append_left _ hx), h d (by simp)⟩

theorem Layout.WF.perm {l l' : Layout} (hwf : l.WF) (h : l'.Perm l) : l'.WF :=
  fun x hx => hwf x (h.mem_iff.mp hx)

theorem specMap_rotated_snoc (es : List Ext) (r : List Int) (t : Int) :
    Op.rotated.specMap es (r ++ [t]) = t :: r := by
  show (match (r ++ [t]).getLast? with | some l => l :: (r ++ [t]).dropLast | none => []) = t :: r
  rw [List.getLast?_concat, List.dropLast_concat]

theorem specShape_unrotated_snoc (es : List Ext) (e : Ext) : Op.unrotated.specShape (es ++ [e]) = e :: es := by
  show (match (es ++ [e]).getLast? with | some l => l :: (es ++ [e]).dropLast | none => []) = e :: es
  rw [List.getLast?_concat, List.dropLast_concat]

theorem rotated_refines (v : View) (hwf : v.lay.WF) :
    Refines v v.rotated (Op.rotated.specShape v.exts) (Op.rotated.specMap v.exts) := by
  cases hv : v.lay with
  | nil =>
    rw [View.exts, hv]
    exact .nil hv (by simp [View.rotated, hv, Layout.rotate]) rfl rfl
  | cons d sub =>
    have hr : v.rotated = ⟨v.base, sub ++ [d]⟩ := by simp [View.rotated, hv, rotate_cons]
    rw [hr, View.exts_cons hv]
    refine ⟨(hv ▸ hwf).perm List.perm_append_comm, List.map_append, fun idx hidx => ?_⟩
    obtain ⟨r, t, rfl⟩ := inBox_snoc_split (es := Layout.exts sub) hidx
    obtain ⟨h1, h2, h3⟩ := inBox_append.mp hidx
    have hlen : r.length = sub.length := (inBox_length h1).trans (List.length_map _)
    rw [specMap_rotated_snoc, addr_eq, addr_eq, hv, off_append sub d r t hlen, View.exts_cons hv]
    exact ⟨congrArg (v.base + ·) (Int.add_comm _ _), ⟨h2, h3⟩, h1⟩

theorem unrotate_eq_snoc (l : Layout) (d : Dim) : Layout.unrotate (l ++ [d]) = d :: l := unrotate_snoc l d

theorem unrotated_refines (v : View) (hwf : v.lay.WF) :
    Refines v v.unrotated (Op.unrotated.specShape v.exts) (Op.unrotated.specMap v.exts) := by
  rcases List.eq_nil_or_concat v.lay with hv | ⟨l, d, hv⟩
  · rw [View.exts, hv]
    exact .nil hv (by simp [View.unrotated, hv, Layout.unrotate]) rfl rfl
  · rw [List.concat_eq_append] at hv
    have hr : v.unrotated = ⟨v.base, d :: l⟩ := by simp [View.unrotated, hv, unrotate_snoc]
    have hex : v.exts = Layout.exts l ++ [d.ext] := by simp [View.exts, hv, Layout.exts]
    rw [hr, hex, specShape_unrotated_snoc]
    refine ⟨(hv ▸ hwf).perm (List.perm_append_comm (l₁ := [d])), rfl, fun idx hidx => ?_⟩
    obtain ⟨t, r, rfl, h1, h2, h3⟩ := inBox_cons hidx
    have hlen : r.length = l.length := (inBox_length h3).trans (List.length_map _)
    rw [show Op.unrotated.specMap _ (t :: r) = r ++ [t] from rfl, addr_eq, addr_eq, hv,
      off_append l d r t hlen, hex]
    exact ⟨congrArg (v.base + ·) (Int.add_comm _ _), inBox_append.mpr ⟨h3, h1, h2⟩⟩

theorem transposed_refines (v : View) (hwf : v.lay.WF) (hd : Op.transposed.InDomain v) :
    Refines v v.transposed (Op.transposed.specShape v.exts) (Op.transposed.specMap v.exts) := by
  obtain ⟨d0, d1, sub, hv⟩ := exists_cons_cons hd
  have hr : v.transposed = ⟨v.base, d1 :: d0 :: sub⟩ := by simp [View.transposed, hv, Layout.transpose]
  rw [hr, View.exts_cons_cons hv]
  refine ⟨(hv ▸ hwf).perm (.swap d0 d1 sub), rfl, fun idx hidx => ?_⟩
  obtain ⟨i, _, rfl, h1, h2, h3⟩ := inBox_cons hidx
  obtain ⟨j, r, rfl, h4, h5, h6⟩ := inBox_cons h3
  rw [addr_eq, addr_eq, hv, View.exts_cons_cons hv]
  exact ⟨congrArg (v.base + ·) (Int.add_left_comm _ _ _), ⟨h4, h5⟩, ⟨h1, h2⟩, h6⟩

theorem off_reverse (l : Layout) (idx : List Int) (h : idx.length = l.length) :
    Layout.off (List.reverse l) (List.reverse idx) = Layout.off l idx := by
  induction l generalizing idx with
  | nil => cases idx <;> simp [Layout.off]
  | cons d l ih =>
    cases idx with
    | nil => simp at h
    | cons t r =>
      have hl : r.length = l.length := Nat.succ.inj h
      rw [List.reverse_cons, List.reverse_cons, off_append _ _ _ _ (by simpa using hl), ih r hl]
      exact Int.add_comm _ _

theorem inBox_reverse {es : List Ext} {idx : List Int} (h : InBox es idx) :
    InBox (List.reverse es) (List.reverse idx) := by
  induction es generalizing idx with
  | nil => cases idx <;> simp_all [InBox]
  | cons e es ih =>
    cases idx with
    | nil => simp [InBox] at h
    | cons t r =>
      simp only [List.reverse_cons]
      exact inBox_append.mpr ⟨ih h.2, h.1.1, h.1.2⟩

theorem reversed_refines (v : View) (hwf : v.lay.WF) :
    Refines v v.reversed (Op.reversed.specShape v.exts) (Op.reversed.specMap v.exts) := by
  have hr : v.reversed = ⟨v.base, List.reverse v.lay⟩ := congrArg (View.mk v.base) (reverse_eq v.lay)
  rw [hr]
  refine ⟨hwf.perm (List.reverse_perm _), List.map_reverse, fun idx hidx => ?_⟩
  have h2 : InBox v.exts idx.reverse := List.reverse_reverse v.exts ▸ inBox_reverse hidx
  have hlen : idx.reverse.length = v.lay.length := (inBox_length h2).trans (List.length_map _)
  rw [addr_eq, addr_eq]
  refine ⟨?_, h2⟩
  simp only [Op.specMap]
  rw [← off_reverse v.lay idx.reverse hlen, List.reverse_reverse]

end Multi
