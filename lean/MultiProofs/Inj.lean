/-
  MultiProofs.Inj — distinct index tuples of a reachable view designate distinct elements of the root.
-/
import MultiProofs.C01

namespace Multi

def InjOn (shape : List Ext) (m : List Int → List Int) : Prop :=
  ∀ a b, InBox shape a → InBox shape b → m a = m b → a = b

theorem InjOn.comp {s1 s2 : List Ext} {m1 m2 : List Int → List Int}
    (h1 : InjOn s1 m1) (h2 : InjOn s2 m2) (hmaps : ∀ a, InBox s2 a → InBox s1 (m2 a)) :
    InjOn s2 (fun idx => m1 (m2 idx)) := by
  intro a b ha hb h
  exact h2 a b ha hb (h1 _ _ (hmaps a ha) (hmaps b hb) h)

theorem InjOn.of_leftInverse {shape : List Ext} {m g : List Int → List Int} (h : ∀ a, g (m a) = a) :
    InjOn shape m :=
  fun a b _ _ hab => by rw [← h a, hab, h b]

theorem InjOn.nil (m : List Int → List Int) : InjOn [] m := by
  intro a b ha hb _
  cases a with
  | cons _ _ => exact ha.elim
  | nil =>
    cases b with
    | cons _ _ => exact hb.elim
    | nil => rfl

theorem InjOn.head {shape : List Ext} {m : List Int → List Int} {mh : Int → Int} (hm0 : m [] = [])
    (hm : ∀ t r, m (t :: r) = mh t :: r) (hinj : ∀ t t', mh t = mh t' → t = t') : InjOn shape m := by
  intro a b _ _ hab
  match a, b with
  | [], [] => rfl
  | [], _ :: _ => rw [hm0, hm] at hab; exact absurd hab (List.cons_ne_nil _ _).symm
  | _ :: _, [] => rw [hm0, hm] at hab; exact absurd hab (List.cons_ne_nil _ _)
  | t :: r, t' :: r' =>
    rw [hm, hm] at hab
    injection hab with h1 h2
    rw [hinj t t' h1, h2]

/-- a map that joins the two leading indices `(p, q)` into `p·k + q`, where `q` ranges over `k` consecutive values -/
theorem InjOn.join {e : Ext} {f k : Int} {es : List Ext} {m : List Int → List Int}
    (hm : ∀ p q r, m (p :: q :: r) = (p * k + q) :: r) : InjOn (e :: Ext.norm ⟨f, f + k⟩ :: es) m := by
  intro a b ha hb hab
  obtain ⟨p, _, rfl, -, -, h3⟩ := inBox_cons ha
  obtain ⟨q, r, rfl, hq1, hq2, -⟩ := inBox_cons h3
  obtain ⟨p', _, rfl, -, -, h3'⟩ := inBox_cons hb
  obtain ⟨q', r', rfl, hq1', hq2', -⟩ := inBox_cons h3'
  obtain ⟨hq1, hq2⟩ := Ext.norm_mem hq1 hq2
  obtain ⟨hq1', hq2'⟩ := Ext.norm_mem hq1' hq2'
  rw [hm, hm] at hab
  injection hab with h1 h2
  obtain ⟨u1, u2⟩ := divmod_unique ⟨hq1, hq2⟩ ⟨hq1', hq2'⟩ h1
  rw [u1, u2, h2]

theorem callMap_inj (args : List Arg) (es : List Ext) : InjOn (callShape args es) (callMap args es) := by
  induction args generalizing es with
  | nil => exact fun _ _ _ _ h => h
  | cons x as ih =>
    cases es with
    | nil => exact .nil _
    | cons e es =>
      intro a b ha hb hab
      cases x with
      | idx i => exact ih es a b ha hb (List.tail_eq_of_cons_eq hab)
      | rng p q =>
        obtain ⟨t, r, rfl, -, -, h3⟩ := inBox_cons ha
        obtain ⟨t', r', rfl, -, -, h3'⟩ := inBox_cons hb
        injection hab with h1 h2
        rw [ih es r r' h3 h3' h2, show t = t' by omega]
      | all =>
        obtain ⟨t, r, rfl, -, -, h3⟩ := inBox_cons ha
        obtain ⟨t', r', rfl, -, -, h3'⟩ := inBox_cons hb
        injection hab with h1 h2
        rw [ih es r r' h3 h3' h2, h1]

theorem rotated_unrotated_specMap (es es' : List Ext) (idx : List Int) :
    Op.unrotated.specMap es (Op.rotated.specMap es' idx) = idx := by
  rcases List.eq_nil_or_concat idx with rfl | ⟨r, t, rfl⟩
  · rfl
  · rw [List.concat_eq_append, specMap_rotated_snoc]
    rfl

theorem unrotated_rotated_specMap (es es' : List Ext) (idx : List Int) :
    Op.rotated.specMap es (Op.unrotated.specMap es' idx) = idx := by
  cases idx with
  | nil => rfl
  | cons t r => exact specMap_rotated_snoc es r t

/-- the documented index mapping of every operation is injective on the result's box
    (a stride of zero apart, which no domain admits) -/
theorem specMap_injOn (op : Op) (es : List Ext) (hs : ∀ s, op = .strided s → s ≠ 0) :
    InjOn (op.specShape es) (op.specMap es) := by
  cases op with
  | index i => exact .of_leftInverse (g := List.tail) (fun _ => rfl)
  | taked n => exact fun _ _ _ _ h => h
  | call args => exact callMap_inj args es
  | rotated => exact .of_leftInverse (rotated_unrotated_specMap es es)
  | unrotated => exact .of_leftInverse (unrotated_rotated_specMap es es)
  | reversed => exact .of_leftInverse (g := List.reverse) List.reverse_reverse
  | transposed =>
    refine .of_leftInverse (g := Op.transposed.specMap es) (fun a => ?_)
    match a with
    | [] | [_] | _ :: _ :: _ => rfl
  | diagonal =>
    refine .of_leftInverse (g := List.tail) (fun a => ?_)
    cases a <;> rfl
  | dropped n => exact .head rfl (fun _ _ => rfl) (fun t t' h => by omega)
  | strided s => exact .head rfl (fun _ _ => rfl) (fun t t' h => Int.eq_of_mul_eq_mul_left (hs s rfl) h)
  | sliced p q =>
    cases es with
    | nil => exact .nil _
    | cons e es => exact .head rfl (fun _ _ => rfl) (fun t t' h => by omega)
  | range p q =>
    cases es with
    | nil => exact .nil _
    | cons e es => exact .head rfl (fun _ _ => rfl) (fun t t' h => by omega)
  | partitioned n =>
    cases es with
    | nil => exact .nil _
    | cons e es => exact .join (fun _ _ _ => rfl)
  | chunked c =>
    cases es with
    | nil => exact .nil _
    | cons e es => exact .join (fun _ _ _ => rfl)
  | flatted =>
    match es with
    | [] => exact .nil _
    | [_] => exact fun _ _ _ _ h => h
    | e0 :: e1 :: es =>
      intro a b ha hb hab
      obtain ⟨t, r, rfl, -⟩ := inBox_cons ha
      obtain ⟨t', r', rfl, -⟩ := inBox_cons hb
      simp only [Op.specMap] at hab
      by_cases h1 : e0.size = 1
      · rw [if_pos h1, if_pos h1] at hab
        exact List.tail_eq_of_cons_eq hab
      · -- equal quotient and remainder by the second extent
        rw [if_neg h1, if_neg h1] at hab
        injection hab with hq hab
        injection hab with hr hab
        have ht := Int.mul_tdiv_add_tmod t e1.size
        rw [hq, hr, Int.mul_tdiv_add_tmod] at ht
        rw [ht, hab]

/-- **distinct index tuples of a reachable view designate distinct index tuples of the root** -/
theorem reach_injOn (root v : View) (den : Den) (hroot : root.lay.WF) (h : Reach root v den) :
    InjOn den.shape den.map := by
  induction h with
  | root => exact fun _ _ _ _ h => h
  | @step w dn op hreach hd ih =>
    have r := C01.reachable_denotes root w dn hroot hreach
    have href := C01.op_refines op w r.1 hd
    rw [r.2.1] at href
    have hop : InjOn (op.specShape dn.shape) (op.specMap dn.shape) := by
      refine specMap_injOn op _ ?_
      rintro s rfl
      exact Int.ne_of_gt hd.2.1
    show InjOn (op.specShape dn.shape) (fun idx => dn.map (op.specMap dn.shape idx))
    refine InjOn.comp ih hop (fun a ha => ?_)
    have := (href.2.2 a ha).2
    rwa [r.2.1] at this

/-- **C01 corollary**: in a view reachable from an array, distinct valid index tuples designate distinct
    elements (no broadcasting in the operation set), so writes through the view never alias -/
theorem reachable_injective (base : Int) (es : List Ext) (hes : ∀ e ∈ es, e.first ≤ e.last)
    (v : View) (den : Den) (h : Reach ⟨base, Layout.ofExts es⟩ v den) (a b : List Int)
    (ha : InBox den.shape a) (hb : InBox den.shape b) (hab : v.addr a = v.addr b) : a = b := by
  obtain ⟨rwf, rex, _, raddr⟩ := C01.root_denotes es hes
  have r := C01.reachable_denotes ⟨base, Layout.ofExts es⟩ v den rwf h
  obtain ⟨ea, ba⟩ := r.2.2 a ha
  obtain ⟨eb, bb⟩ := r.2.2 b hb
  have ba' : InBox (collapse es) (den.map a) := by rw [← rex]; exact ba
  have bb' : InBox (collapse es) (den.map b) := by rw [← rex]; exact bb
  rw [ea, eb, addr_eq, addr_eq] at hab
  simp only at hab
  rw [(raddr _ ba').1, (raddr _ bb').1] at hab
  have hrm : rowMajor es (den.map a) = rowMajor es (den.map b) := by omega
  have hm := rowMajor_inj (inBox_of_collapse _ ba') (inBox_of_collapse _ bb') hrm
  exact reach_injOn _ v den rwf h a b ha hb hm

end Multi
