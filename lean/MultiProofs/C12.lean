/-
  C12 — Projection views transform, cast or reinterpret exactly element by element.

  Setting: a typed view `t : TView` (element size `esz`, byte origin, positions) whose layout is well formed — ANY index
  bases: since the fix "member_cast / reinterpret_array_cast on views with non-zero index bases scale the offset"
  `layout_t::scale` multiplies the offset too and asserts `(stride_*num) % den == 0` (hypothesis `ScaleDiv`, implied by
  `sizeof(T2) ∣ sizeof(T)`) and `(offset_*num) % den == 0` (a consequence on well-formed views without empty level,
  `scaleDivOff_of_wf`).  Address statements are for index tuples of the view's box.
-/
import MultiProofs.CastLemmas
import MultiProofs.ElemOrder

namespace Multi
namespace C12

/-- the same-rank casts of the library -/
inductive Cast where
  | same                         -- static_array_cast, const_array_cast, as_const
  | member (sT2 off : Int)       -- member_cast<T2>(&T::m), off = offsetof(T, m)
  | reinterpret (sU : Int)       -- reinterpret_array_cast<U>()
deriving Repr

def Cast.apply : Cast → TView → TView
  | .same, t => t.sameCast
  | .member s o, t => t.memberCast s o
  | .reinterpret s, t => t.reinterpret s

/-- byte displacement of the projected element inside the source element -/
def Cast.shift : Cast → Int
  | .member _ o => o
  | _ => 0

/-- what the code demands of the operand: its `static_assert`s and the stride assertion of `layout_t::scale` (the offset
    assertion follows on well-formed views, `scaleDivOff_of_wf`) -/
def Cast.Admissible : Cast → TView → Prop
  | .same, _ => True
  | .member s _, t => 0 < s ∧ s ∣ t.esz
  | .reinterpret s, t => 0 < s ∧ ScaleDiv t.v.lay t.esz s

theorem byteAddr_eq (t : TView) (idx : List Int) : t.byteAddr idx = t.ptr + t.esz * t.v.lay.off idx := by
  simp only [TView.byteAddr, TView.ptr, addr_eq, Int.mul_add, Int.add_assoc]

/-- common core: a view over the scaled layout at the same pointer designates the same bytes (any index base) -/
theorem scaled_view (t : TView) (s p : Int) (hesz : 0 < t.esz) (hs : 0 < s) (hwf : t.v.lay.WF)
    (hd : ScaleDiv t.v.lay t.esz s) :
    let r : TView := ⟨s, p, ⟨0, t.v.lay.scale t.esz s⟩⟩
    r.v.lay.WF ∧ r.exts = t.exts ∧ ∀ idx, InBox t.exts idx → r.byteAddr idx = p + t.esz * t.v.lay.off idx := by
  intro r
  obtain ⟨w1, w2⟩ := scale_wf t.v.lay t.esz s hwf hd hesz hs
  refine ⟨w1, w2, ?_⟩
  intro idx hidx
  have := scale_off t.v.lay t.esz s idx hwf hd hesz hs hidx
  simp only [r, TView.byteAddr, addr_eq, Int.zero_add]
  rw [this]

/-- **member_cast.** For `sizeof(T2) ∣ sizeof(T)` and ANY well-formed view (arbitrary index bases, strides, sub-blocks):
    the result is a well-formed view with the source's extents, the code's assertions hold, and its element at every
    index tuple is the object at byte displacement `off` (the member) inside the source element at the same index tuple. -/
theorem member_cast_addr (t : TView) (sT2 off : Int) (hesz : 0 < t.esz) (hs : 0 < sT2) (hdvd : sT2 ∣ t.esz)
    (hwf : t.v.lay.WF) :
    (t.memberCast sT2 off).v.lay.WF ∧ (t.memberCast sT2 off).exts = t.exts ∧ (t.memberCast sT2 off).esz = sT2 ∧
    t.memberCastAsserts sT2 = true ∧
    ∀ idx, InBox t.exts idx → (t.memberCast sT2 off).byteAddr idx = t.byteAddr idx + off := by
  have hd : ScaleDiv t.v.lay t.esz sT2 := scaleDiv_of_dvd _ hdvd
  obtain ⟨a1, a2, a4⟩ := scaled_view t sT2 (t.ptr + off) hesz hs hwf hd
  refine ⟨a1, a2, rfl, ?_, ?_⟩
  · rw [TView.memberCastAsserts, scaleAsserts_of_div hd (scaleDivOff_of_dvd _ hdvd), Bool.and_true, decide_eq_true_eq]
    exact Int.tmod_eq_zero_of_dvd hdvd
  · intro idx hidx
    rw [byteAddr_eq t, Int.add_right_comm]
    exact a4 idx hidx

/-- **reinterpret_array_cast<U>().** Under the stride assertion of `scale`, for any well-formed view: same extents, and
    the element at every index tuple starts at the same byte as the source element (it is the source element's storage read
    as `U`); the offset assertion holds as soon as no level is empty; the D = 1 `const&` overload is the same view. -/
theorem reinterpret_addr (t : TView) (sU : Int) (hesz : 0 < t.esz) (hs : 0 < sU)
    (hwf : t.v.lay.WF) (hd : ScaleDiv t.v.lay t.esz sU) :
    (t.reinterpret sU).v.lay.WF ∧ (t.reinterpret sU).exts = t.exts ∧ (t.reinterpret sU).esz = sU ∧
    ((∀ d ∈ t.v.lay, d.nelems ≠ 0) → t.reinterpretAsserts sU = true) ∧
    (∀ idx, InBox t.exts idx → (t.reinterpret sU).byteAddr idx = t.byteAddr idx) ∧
    t.reinterpret1 sU = t.reinterpret sU := by
  obtain ⟨a1, a2, a4⟩ := scaled_view t sU t.ptr hesz hs hwf hd
  refine ⟨a1, a2, rfl, fun hne => scaleAsserts_of_div hd (scaleDivOff_of_wf t.v.lay t.esz sU hwf hne hd), ?_, ?_⟩
  · intro idx hidx
    rw [byteAddr_eq t]
    exact a4 idx hidx
  · unfold TView.reinterpret1
    split
    · rename_i d hl
      simp [TView.reinterpret, hl, Layout.scale]
    · rfl

/-- **reinterpret_array_cast<U>(n).** The result has the source's extents followed by `[0, n)`; the element at
    `idx ++ [j]` is the `j`-th `U` inside the source element at `idx`; with the code's assertion
    `sizeof(T) == sizeof(U)*n` those `n` objects tile exactly the source element's bytes.  The D = 1 overload
    (which rotates the view instead of the layout) yields the same view. -/
theorem reinterpret_n_addr (t : TView) (sU n : Int) (hesz : 0 < t.esz) (hs : 0 < sU) (hn : 0 ≤ n)
    (hwf : t.v.lay.WF) (hd : ScaleDiv t.v.lay t.esz sU) :
    (t.reinterpretN sU n).v.lay.WF ∧ (t.reinterpretN sU n).exts = t.exts ++ [⟨0, n⟩] ∧
    (∀ idx j, InBox t.exts idx →
      (t.reinterpretN sU n).byteAddr (idx ++ [j]) = t.byteAddr idx + j * sU) ∧
    (t.esz = sU * n → ∀ j, 0 ≤ j → j < n → 0 ≤ j * sU ∧ j * sU + sU ≤ t.esz) ∧
    t.reinterpretN1 sU n = t.reinterpretN sU n := by
  obtain ⟨a1, a2, _⟩ := scaled_view t sU t.ptr hesz hs hwf hd
  have hrot : Layout.rotate (⟨1, 0, n⟩ :: t.v.lay.scale t.esz sU) = t.v.lay.scale t.esz sU ++ [⟨1, 0, n⟩] := rotate_cons _ _
  have hdim := unit_level hn
  refine ⟨?_, ?_, ?_, ?_, ?_⟩
  · simp only [TView.reinterpretN, hrot]
    intro x hx
    rcases List.mem_append.mp hx with h | h
    · exact a1 x h
    · simp at h; subst h; exact hdim.1
  · simp only [TView.reinterpretN, TView.exts, View.exts, hrot, Layout.exts, List.map_append, List.map_cons, List.map_nil, hdim.2]
    have : (t.v.lay.scale t.esz sU).exts = t.v.lay.exts := a2
    simp only [Layout.exts] at this
    rw [this]
  · intro idx j hidx
    have hlen : idx.length = (t.v.lay.scale t.esz sU).length := by
      rw [scale_length]; simpa [TView.exts, View.exts, Layout.exts] using inBox_length hidx
    rw [byteAddr_eq t, byteAddr_eq]
    show t.ptr + sU * 0 + sU * Layout.off (Layout.rotate (⟨1, 0, n⟩ :: t.v.lay.scale t.esz sU)) (idx ++ [j]) = _
    rw [Int.mul_zero, Int.add_zero, hrot, off_append _ _ _ _ hlen, Int.mul_add,
      scale_off t.v.lay t.esz sU idx hwf hd hesz hs hidx, Int.mul_one, Int.sub_zero, Int.mul_comm sU, Int.add_assoc]
  · intro he j hj0 hjn
    have := Int.mul_le_mul_of_nonneg_right (show j + 1 ≤ n by omega) (Int.le_of_lt hs)
    rw [Int.add_mul, Int.one_mul, Int.mul_comm n] at this
    exact ⟨Int.mul_nonneg hj0 (Int.le_of_lt hs), he ▸ this⟩
  · simp [TView.reinterpretN1, TView.reinterpretN, View.rotated]

/-- **static_array_cast / const_array_cast / as_const** keep layout and pointer: same extents, every element is the
    very same object. -/
theorem same_cast_identity (t : TView) :
    t.sameCast.exts = t.exts ∧ ∀ idx, t.sameCast.byteAddr idx = t.byteAddr idx := ⟨rfl, fun _ => rfl⟩

theorem isFlattable_scale (v : View) (num den : Int) (hwf : v.lay.WF) (hd : ScaleDiv v.lay num den)
    (hnum : 0 < num) (hden : 0 < den) (h : v.isFlattable = true) :
    (⟨0, v.lay.scale num den⟩ : View).isFlattable = true := by
  cases hv : v.lay with
  | nil => simp [View.isFlattable, hv] at h
  | cons d l =>
    cases l with
    | nil => simp [View.isFlattable, hv] at h
    | cons d1 l =>
      rw [hv] at hwf hd
      simp only [View.isFlattable, hv, Bool.or_eq_true, decide_eq_true_eq, beq_iff_eq] at h
      simp only [View.isFlattable, scale_cons, Bool.or_eq_true, decide_eq_true_eq, beq_iff_eq]
      obtain ⟨_, _, s1, _⟩ := scale_dim hwf.head (hd d (by simp)) hnum hden
      rcases h with h | h
      · left; rw [s1]; exact h
      · right; rw [h]

theorem cast_denotes (c : Cast) (t : TView) (hesz : 0 < t.esz) (hwf : t.v.lay.WF) (hc : c.Admissible t) :
    (c.apply t).v.lay.WF ∧ (c.apply t).exts = t.exts ∧
    (t.v.isFlattable = true → (c.apply t).v.isFlattable = true) ∧
    ∀ idx, InBox t.exts idx → (c.apply t).byteAddr idx = t.byteAddr idx + c.shift := by
  cases c with
  | same => exact ⟨hwf, rfl, id, fun _ _ => by simp [Cast.apply, Cast.shift, TView.sameCast]⟩
  | member s o =>
    obtain ⟨h1, h2⟩ := hc
    obtain ⟨a1, a2, _, _, a5⟩ := member_cast_addr t s o hesz h1 h2 hwf
    exact ⟨a1, a2, isFlattable_scale t.v t.esz s hwf (scaleDiv_of_dvd _ h2) hesz h1, a5⟩
  | reinterpret s =>
    obtain ⟨h1, h2⟩ := hc
    obtain ⟨a1, a2, _, _, a5, _⟩ := reinterpret_addr t s hesz h1 hwf h2
    exact ⟨a1, a2, isFlattable_scale t.v t.esz s hwf h2 hesz h1,
      fun idx hidx => by simp [Cast.apply, Cast.shift, a5 idx hidx]⟩

/-- **element_transformed.** The transformed view has the source's extents, and for EVERY memory state `mem` — in
    particular the one at the time of access, whatever happened to the source since the view was created — its
    element at `idx` is `f` applied to the source element at `idx`. -/
theorem transformed_elem {α β : Type} (t : TView) (f : α → β) :
    (t.elementTransformed f).exts = t.exts ∧
    ∀ (mem : Int → α) (idx : List Int), (t.elementTransformed f).read mem idx = f (t.read mem idx) := by
  refine ⟨rfl, ?_⟩
  intro mem idx
  simp only [XView.read, TransformPtr.deref, XView.ptrAt, TransformPtr.add, XView.basePtr, TView.elementTransformed,
    TView.read, byteAddr_eq, disp_eq_off]

/-- **writes through.** With a reference-returning functor (`g` = byte address of the designated sub-object as a
    function of the byte address of the source element), assigning `val` to the transformed view's element at `idx`
    stores `val` in that sub-object of the source element at `idx` and changes no other location. -/
theorem transformed_writes_through {α : Type} (t : TView) (f : α → α) (g : Int → Int) (mem : Int → α) (idx : List Int) (val : α) :
    let x := t.elementTransformed f
    let mem' := memWrite mem (x.refAddr g idx) val
    x.refAddr g idx = g (t.byteAddr idx) ∧ mem' (g (t.byteAddr idx)) = val ∧ ∀ a, a ≠ g (t.byteAddr idx) → mem' a = mem a := by
  intro x mem'
  have e : x.refAddr g idx = g (t.byteAddr idx) := by
    simp only [x, XView.refAddr, XView.ptrAt, TransformPtr.add, XView.basePtr, TView.elementTransformed, byteAddr_eq, disp_eq_off]
  refine ⟨e, ?_, ?_⟩
  · simp [mem', memWrite, e]
  · intro a ha; simp [mem', memWrite, e, ha]

/-- an operation of the view algebra on a typed view: `C01.op_refines` in byte addresses -/
theorem map_op (op : Op) (t : TView) (hwf : t.v.lay.WF) (hd : op.InDomain t.v) :
    (t.map op.apply).v.lay.WF ∧ (t.map op.apply).exts = op.specShape t.exts ∧
    ∀ idx, InBox (op.specShape t.exts) idx →
      (t.map op.apply).byteAddr idx = t.byteAddr (op.specMap t.exts idx) ∧ InBox t.exts (op.specMap t.exts idx) := by
  obtain ⟨r1, r2, r3⟩ := C01.op_refines op t.v hwf hd
  exact ⟨r1, r2, fun idx hidx => ⟨congrArg (t.org + t.esz * ·) (r3 idx hidx).1, (r3 idx hidx).2⟩⟩

/-- **casts commute with the view algebra.** For every same-rank cast `c` and every in-domain operation `op` of C01:
    casting the operated view and operating on the cast view give views of the same extents (the ones `op`'s
    documentation prescribes) whose elements at every index tuple are the same bytes — namely the projection of the
    source element that `op`'s documented index mapping designates.  Any index bases.  `Admissible` at both places is
    the code's own assertions there. -/
theorem casts_commute_with_ops (c : Cast) (op : Op) (t : TView) (hesz : 0 < t.esz) (hwf : t.v.lay.WF)
    (hd : op.InDomain t.v) (hc : c.Admissible t) (hc' : c.Admissible (t.map op.apply)) :
    let a := c.apply (t.map op.apply)     -- cast ∘ op
    let b := (c.apply t).map op.apply     -- op ∘ cast
    op.InDomain (c.apply t).v ∧
    a.exts = op.specShape t.exts ∧ b.exts = op.specShape t.exts ∧ a.esz = b.esz ∧
    ∀ idx, InBox (op.specShape t.exts) idx →
      a.byteAddr idx = b.byteAddr idx ∧ a.byteAddr idx = t.byteAddr (op.specMap t.exts idx) + c.shift := by
  intro a b
  obtain ⟨r1, r2, r3⟩ := map_op op t hwf hd
  -- cast of the operated view
  obtain ⟨_, ca2, _, ca3⟩ := cast_denotes c (t.map op.apply) hesz r1 hc'
  -- cast of the source, then the operation
  obtain ⟨cb1, cb2, cbf, cb3⟩ := cast_denotes c t hesz hwf hc
  have hdom : op.InDomain (c.apply t).v := inDomain_congr op t.v _ cb2 cbf hd
  obtain ⟨_, s2, s3⟩ := map_op op (c.apply t) cb1 hdom
  rw [cb2] at s2 s3
  refine ⟨hdom, ca2.trans r2, s2, by cases c <;> rfl, ?_⟩
  intro idx hidx
  obtain ⟨q1, q2⟩ := r3 idx hidx
  have ea : a.byteAddr idx = t.byteAddr (op.specMap t.exts idx) + c.shift := by
    rw [← q1]; exact ca3 idx (r2 ▸ hidx)
  exact ⟨ea.trans (((s3 idx hidx).1.trans (cb3 _ q2)).symm), ea⟩

/-- the code's assertions still hold after any operation of the view algebra when the target size divides the source
    size (always the case for `member_cast`, whose `static_assert` demands it) -/
theorem admissible_after_op (c : Cast) (op : Op) (t : TView) (hc : c.Admissible t)
    (hdvd : ∀ s, c = .reinterpret s → s ∣ t.esz) : c.Admissible (t.map op.apply) := by
  cases c with
  | same => trivial
  | member s o => exact ⟨hc.1, hc.2⟩
  | reinterpret s => exact ⟨hc.1, scaleDiv_of_dvd _ (hdvd s rfl)⟩

/-- `casts_commute_with_ops` with the admissibility of the operated view discharged -/
theorem casts_commute_with_ops_dvd (c : Cast) (op : Op) (t : TView) (hesz : 0 < t.esz) (hwf : t.v.lay.WF)
    (hd : op.InDomain t.v) (hc : c.Admissible t) (hdvd : ∀ s, c = .reinterpret s → s ∣ t.esz) :
    (c.apply (t.map op.apply)).exts = ((c.apply t).map op.apply).exts ∧
    ∀ idx, InBox (op.specShape t.exts) idx →
      (c.apply (t.map op.apply)).byteAddr idx = ((c.apply t).map op.apply).byteAddr idx := by
  obtain ⟨_, h2, h3, _, h5⟩ := casts_commute_with_ops c op t hesz hwf hd hc (admissible_after_op c op t hc hdvd)
  exact ⟨by rw [h2, h3], fun idx hidx => (h5 idx hidx).1⟩

/-- `element_transformed` commutes with every operation structurally (same layout, same wrapped pointer), and the
    value read through either is `f` of the source element that the operation's index mapping designates. -/
theorem transformed_commutes_with_ops {α β : Type} (op : Op) (t : TView) (f : α → β) (hwf : t.v.lay.WF) (hd : op.InDomain t.v) :
    (t.map op.apply).elementTransformed f = (t.elementTransformed f).map op.apply ∧
    ((t.elementTransformed f).map op.apply).exts = op.specShape t.exts ∧
    ∀ (mem : Int → α) idx, InBox (op.specShape t.exts) idx →
      ((t.elementTransformed f).map op.apply).read mem idx = f (t.read mem (op.specMap t.exts idx)) := by
  obtain ⟨_, r2, r3⟩ := map_op op t hwf hd
  refine ⟨rfl, r2, fun mem idx hidx => ?_⟩
  show _ = f (mem (t.byteAddr (op.specMap t.exts idx)))
  rw [← (r3 idx hidx).1]
  exact (transformed_elem (t.map op.apply) f).2 mem idx

/-- **reinterpret_array_cast<U>(n) composes with the view algebra** on both sides: applied to an operated view it
    designates the `j`-th `U` of the source element selected by the operation's index mapping; and its result is a
    well-formed view, so every in-domain operation on it (also over the new trailing dimension) again realises
    its documented mapping. -/
theorem reinterpret_n_composes (op : Op) (t : TView) (sU n : Int) (hesz : 0 < t.esz) (hs : 0 < sU) (hn : 0 ≤ n)
    (hwf : t.v.lay.WF) (hd : op.InDomain t.v)
    (hd' : ScaleDiv (op.apply t.v).lay t.esz sU) :
    ((t.map op.apply).reinterpretN sU n).exts = op.specShape t.exts ++ [⟨0, n⟩] ∧
    (∀ idx j, InBox (op.specShape t.exts) idx →
      ((t.map op.apply).reinterpretN sU n).byteAddr (idx ++ [j]) = t.byteAddr (op.specMap t.exts idx) + j * sU) ∧
    (∀ (op2 : Op), op2.InDomain ((t.map op.apply).reinterpretN sU n).v →
      Refines ((t.map op.apply).reinterpretN sU n).v (op2.apply ((t.map op.apply).reinterpretN sU n).v)
        (op2.specShape (op.specShape t.exts ++ [⟨0, n⟩])) (op2.specMap (op.specShape t.exts ++ [⟨0, n⟩]))) := by
  obtain ⟨r1, r2, r3⟩ := map_op op t hwf hd
  obtain ⟨a1, a2, a3, _, _⟩ := reinterpret_n_addr (t.map op.apply) sU n hesz hs hn r1 hd'
  rw [r2] at a2 a3
  refine ⟨a2, fun idx j hidx => by rw [a3 idx j hidx, (r3 idx hidx).1], fun op2 hd2 => ?_⟩
  have := C01.op_refines op2 _ a1 hd2
  rwa [show ((t.map op.apply).reinterpretN sU n).v.exts = _ from a2] at this

/-- **array(view).** Constructing an array from a projection (any view-like object with extents `es` whose element
    at `idx` reads as `read idx`, the element type being converted by `conv`) yields an array with the projection's
    extents — reported as empty in every dimension when the projection has no elements, as for any array (C01
    `root_denotes`) — whose element at every index tuple is the conversion of the projection's element there. -/
theorem ctor_from_projection {β γ : Type} (es : List Ext) (hes : ∀ e ∈ es, e.first ≤ e.last)
    (read : List Int → β) (conv : β → γ) :
    let A := constructFrom es read conv
    A.lay.WF ∧ A.lay.exts = collapse es ∧ (A.data.length : Int) = nElems es ∧
    ∀ idx, InBox (collapse es) idx →
      0 ≤ A.lay.off idx ∧ A.data[(A.lay.off idx).toNat]? = some (conv (read idx)) := by
  intro A
  obtain ⟨w1, w2, w3, w4⟩ := C01.root_denotes es hes
  have hlen : ((boxIndices es).length : Int) = nElems es := by
    rw [boxIndices_length_eq es hes]; exact Int.toNat_of_nonneg (nElems_nonneg hes)
  -- the block is allocated for exactly the tuples of the box: `take` drops nothing
  have hA : A.data = (boxIndices es).map fun idx => conv (read idx) := by
    show List.map _ (List.take (Layout.ofExts es).numElements.toNat (boxIndices es)) = _
    rw [w3, ← hlen, Int.toNat_natCast, List.take_length]
  refine ⟨w1, w2, by rw [hA, List.length_map, hlen], ?_⟩
  intro idx hidx
  obtain ⟨o1, o2, -⟩ := w4 idx hidx
  have ho : A.lay.off idx = rowMajor es idx := o1
  rw [ho, hA, List.getElem?_map, boxIndices_at_rank hes (inBox_of_collapse idx hidx)]
  exact ⟨o2, rfl⟩

/-- non-vacuity: a `[2,6)×[-3,3)` array of 32-byte structs, `transposed().strided(3).sliced(-1,1)`: well formed, not zero-based -/
example : ∃ t : TView, 0 < t.esz ∧ t.v.lay.WF ∧ (8 : Int) ∣ t.esz ∧ t.exts = [⟨-1, 1⟩, ⟨2, 6⟩] ∧
    (t.memberCast 8 16).byteAddr [0, 3] = t.byteAddr [0, 3] + 16 ∧ (Cast.member 8 16).Admissible t := by
  refine ⟨TView.ofView 32 ((((⟨0, Layout.ofExts [⟨2, 6⟩, ⟨-3, 3⟩]⟩ : View).transposed).strided 3).sliced (-1) 1), ?_⟩
  refine ⟨by decide, ?_, ⟨4, rfl⟩, by decide +kernel, by decide +kernel, ⟨by decide, ⟨4, rfl⟩⟩⟩
  have h0 := (C01.root_denotes [⟨2, 6⟩, ⟨-3, 3⟩] (by decide)).1
  have h1 := (C01.op_refines Op.transposed ⟨0, _⟩ h0 (by decide +kernel)).1
  have h2 := (C01.op_refines (Op.strided 3) _ h1 (by decide +kernel)).1
  exact (C01.op_refines (Op.sliced (-1) 1) _ h2 (by decide +kernel)).1

end C12
end Multi
