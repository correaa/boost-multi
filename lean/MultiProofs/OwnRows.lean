/-
  MultiProofs.OwnRows — `assign(first,last)` / `operator=(initializer_list)` IN PLACE: the row-by-row loop `ref::assign(first)` over
  the sub-arrays `A[first+k]` of a row-major array writes the given values to the block, in order.  Helper lemmas for C04 / C06.
-/
import MultiProofs.OwnViewAssign

namespace Multi
namespace Own
open C02
variable {α : Type}

theorem writeList_append (xs ys : List α) : ∀ (h : Heap α) (dst : Option BlockId) (off : Nat),
    h.writeList dst off (xs ++ ys) = (h.writeList dst off xs).writeList dst (off + xs.length) ys := by
  induction xs with
  | nil => intro h dst off; simp [Heap.writeList]
  | cons x xs ih =>
    intro h dst off
    simp only [List.cons_append, Heap.writeList, ih, List.length_cons]
    congr 1; omega

/-- writing through a list of consecutive addresses is `writeList` -/
theorem foldl_write_consec (dst : Option BlockId) (row : List α) : ∀ (off : Nat) (h : Heap α),
    ((seqFrom off row.length).zip row).foldl (fun h (dv : Int × α) => h.write dst dv.1 (some dv.2)) h = h.writeList dst off row := by
  induction row with
  | nil => intro off h; rfl
  | cons v row ih => intro off h; exact ih (off + 1) _

/-- the k-th row `A[first + k]` of an array with extensions `e :: rest`, by C01's `index_refines`: well formed, extensions `rest`, and its
    element at `idx` is cell `k·M + rank idx` of the block (`M` = the element count of a row) -/
theorem Valid.row {h : Heap α} {a : Arr} (hv : Valid h a) {e : Ext} {rest : List Ext} (hx : a.exts = e :: rest) {k : Nat}
    (hk : (k : Int) < e.size) :
    (a.view.index (a.view.ext.first + Int.ofNat k)).lay.WF ∧ (a.view.index (a.view.ext.first + Int.ofNat k)).exts = rest ∧
    ∀ idx, InBox rest idx →
      (a.view.index (a.view.ext.first + Int.ofNat k)).addr idx = (k : Int) * nElems rest + rowMajor rest idx := by
  obtain ⟨d, sub, hl, hde, -⟩ := List.map_eq_cons_iff.mp hx
  have hext : a.view.ext = e := (View.ext_cons (v := a.view) hl).trans hde
  have hk' : e.first + k < e.last := by simp only [Ext.size] at hk; omega
  obtain ⟨rwf, rex, raddr⟩ := index_refines a.view (a.view.ext.first + Int.ofNat k) hv.view_wf
    ⟨fun e0 => List.cons_ne_nil d sub (hl.symm.trans e0), Int.le_add_of_nonneg_right (Int.natCast_nonneg k), by rw [hext]; exact hk'⟩
  have hsh : (Op.index (a.view.ext.first + Int.ofNat k)).specShape a.view.exts = rest := congrArg List.tail hx
  rw [hsh] at rex raddr
  refine ⟨rwf, rex, fun idx hidx => ?_⟩
  obtain ⟨e1, e2⟩ := raddr idx hidx
  rw [e1, (hv.addr e2).1]
  simp only [Op.specMap, hx, rowMajor, hext, Int.ofNat_eq_natCast]
  rw [show e.first + (k : Int) - e.first = k by omega]

/-- one step of `ref::assign(first)`: the k-th row receives its values — as a `writeList` at offset `k·M` -/
theorem assignRow_eq {h0 : Heap α} {a : Arr} (hv : Valid h0 a) {e : Ext} {rest : List Ext} (hx : a.exts = e :: rest)
    (hn : nElems rest ≠ 0) (inner : List Ext) (heq : Exts.eqv inner rest = true) {k : Nat} (hk : (k : Int) < e.size) (row : List α)
    (hrow : row.length = (nElems rest).toNat) (h : Heap α) :
    assignRow h a k inner row = h.writeList a.base (k * (nElems rest).toNat) row := by
  obtain ⟨rwf, rex, raddr⟩ := hv.row hx hk
  have hok : ExtsOK rest := (hx ▸ hv.exts_ok : ExtsOK (e :: rest)).tail
  have hoff : ((k * (nElems rest).toNat : Nat) : Int) = k * nElems rest := by
    rw [Int.natCast_mul, Int.toNat_of_nonneg (nElems_nonneg hok)]
  unfold assignRow
  generalize a.view.index (a.view.ext.first + Int.ofNat k) = dv at rwf rex raddr ⊢
  cases rest with
  | nil =>
    -- D = 1: one element
    have hin : inner = [] := by cases inner with | nil => rfl | cons _ _ => simp [Exts.eqv] at heq
    subst hin
    have hb : dv.base = (k * (nElems []).toNat : Nat) := by
      have := raddr [] trivial
      rw [addr_eq, ← hoff] at this
      simpa [rowMajor, Layout.off] using this
    match row, hrow with
    | [v], _ => exact congrArg (h.write a.base · (some v)) hb
  | cons r rs =>
    cases inner with
    | nil => simp [Exts.eqv] at heq
    | cons i is =>
      simp only
      have hne : NonEmpty dv := nonEmpty_of rwf (by rw [rex]; exact List.cons_ne_nil r rs)
        (by rw [rex]; exact pos_of_nElems_ne_zero _ hok hn)
      have hea := elemAddrs_eq _ rwf
      rw [rex, ← hrow] at hea
      have hchk : (Exts.eqv dv.exts (i :: is) && dv.numElements == Int.ofNat row.length) = true := by
        rw [(C01.shape_functions_agree _ rwf).2.1, rex, Exts.eqv_comm, heq, hrow, Int.ofNat_eq_natCast,
          Int.toNat_of_nonneg (nElems_nonneg hok)]
        simp
      simp only [hchk, Heap.check, if_true, nonEmpty_not_isEmpty hne, Bool.false_eq_true, if_false, hea]
      -- the addresses are consecutive: the rank of an index tuple counts from 0 in canonical order
      have haddrs : (boxIndices (r :: rs)).map dv.addr = seqFrom (k * (nElems (r :: rs)).toNat : Nat) row.length := by
        rw [hoff, hrow, ← Int.add_zero (k * _), ← seqFrom_map_add, ← boxIndices_rowMajor _ hok, List.map_map]
        exact List.map_congr_left fun idx hidx => raddr idx ((mem_boxIndices _ _).mp hidx)
      rw [haddrs]
      exact foldl_write_consec a.base row _ h

/-- the whole loop: all rows, in order, are one `writeList` of the values -/
theorem assignRows_eq {h0 : Heap α} {a : Arr} (hv : Valid h0 a) {e : Ext} {rest : List Ext} (hx : a.exts = e :: rest)
    (hn : nElems rest ≠ 0) (inner : List Ext) (heq : Exts.eqv inner rest = true) :
    ∀ (len start : Nat) (vals : List α) (h : Heap α), ((start + len : Nat) : Int) ≤ e.size → vals.length = len * (nElems rest).toNat →
      ((List.range' start len).zip (chunks (nElems rest).toNat len vals)).foldl (fun h (kr : Nat × List α) => assignRow h a kr.1 inner kr.2) h
        = h.writeList a.base (start * (nElems rest).toNat) vals := by
  intro len
  induction len with
  | zero =>
    intro start vals h _ hl
    have : vals = [] := List.eq_nil_of_length_eq_zero (by simpa using hl)
    subst this
    simp [chunks, Heap.writeList]
  | succ len ih =>
    intro start vals h hb hl
    have hlt : (nElems rest).toNat ≤ vals.length := hl ▸ Nat.succ_mul _ _ ▸ Nat.le_add_left _ _
    have htake : (vals.take (nElems rest).toNat).length = (nElems rest).toNat := List.length_take.trans (Nat.min_eq_left hlt)
    simp only [List.range'_succ, chunks, List.zip_cons_cons, List.foldl_cons]
    rw [assignRow_eq hv hx hn inner heq (Int.lt_of_lt_of_le (Int.ofNat_lt.mpr (Nat.lt_add_of_pos_right (Nat.succ_pos len))) hb) _ htake,
      ih (start + 1) _ _ (Nat.add_right_comm start 1 len ▸ hb) (by rw [List.length_drop, hl, Nat.succ_mul, Nat.add_sub_cancel])]
    conv => rhs; rw [← List.take_append_drop (nElems rest).toNat vals]
    rw [writeList_append, htake, Nat.succ_mul]

/-- **the documented value of `A.assign(first, last)` / `A = {…}`** with `count` sub-arrays of extensions `inner` and the values `vals`:
    exactly the requested contents; the array keeps its extensions (index bases) when the shape already matches, otherwise it gets the
    zero-based extensions of the range -/
def listVal (x : AbsArr α) (count : Int) (inner : List Ext) (vals : List α) : AbsArr α :=
  if count = (x.exts.head?.map Ext.size).getD 0 ∧ (count = 0 ∨ Exts.eqv inner x.exts.tail = true) then ⟨x.exts, vals.map some⟩
  else ⟨collapse (rangeExts count inner), vals.map some⟩

theorem rangeExts_length (count : Int) (inner : List Ext) : (rangeExts count inner).length = inner.length + 1 := by
  unfold rangeExts; split <;> simp

/-- the leading size an array of dimensionality ≥ 1 reports is 0 exactly if it has no elements -/
theorem Valid.head_size {h : Heap α} {a : Arr} (hv : Valid h a) (hD : a.dim ≠ 0) :
    (a.exts.head?.map Ext.size).getD 0 = 0 ↔ a.numElements = 0 := by
  obtain ⟨es, hok, hlay, hx, hn⟩ := hv.of_exts
  cases es with
  | nil => exact absurd (by show a.lay.length = 0; rw [hlay]; rfl) hD
  | cons e rest =>
    rw [hx, hn]
    simp only [collapse, nElems, List.head?_cons, Option.map_some, Option.getD_some]
    by_cases hz : e.size * nElems rest = 0
    · rw [if_pos hz]; exact ⟨fun _ => hz, fun _ => rfl⟩
    · rw [if_neg hz]; exact ⟨fun h0 => absurd (by rw [h0, Int.zero_mul]) hz, fun h0 => absurd h0 hz⟩

theorem vals_nil_of_count_zero {inner : List Ext} {vals : List α} (hlen : (vals.length : Int) = nElems (rangeExts 0 inner)) :
    vals = [] := by
  apply List.eq_nil_of_length_eq_zero
  have : nElems (rangeExts 0 inner) = 0 := by simp [rangeExts, nElems, Ext.size]
  omega

/-- `assign(first, last)` when the shape does not match: the array is rebuilt from the range and move-assigned -/
theorem assignRange_rebuild (h : Heap α) (self : Arr) (count : Int) (inner : List Ext) (vals : List α)
    (hcond : ¬ (count = self.view.size ∧ (count = 0 ∨ Exts.eqv inner (self.view.index self.view.ext.first).exts = true))) :
    assignRange h self count inner vals =
      (dtor (moveAssign (rangeCtor h count inner vals).1 self (rangeCtor h count inner vals).2).1
            (moveAssign (rangeCtor h count inner vals).1 self (rangeCtor h count inner vals).2).2.2,
       (moveAssign (rangeCtor h count inner vals).1 self (rangeCtor h count inner vals).2).2.1) := by
  unfold assignRange
  simp only [hcond, if_false]

theorem assignRange_outcome {h : Heap α} {self : Arr} (hv : Valid h self) (hD : self.dim ≠ 0) (count : Int) (inner : List Ext)
    (vals : List α) (hes : ExtsOK (rangeExts count inner)) (hlen : (vals.length : Int) = nElems (rangeExts count inner)) :
    Outcome h (assignRange h self count inner vals).1 (ownBlock self) (assignRange h self count inner vals).2
      (listVal (absArr h self) count inner vals) := by
  obtain ⟨d, sub, hl⟩ := List.exists_cons_of_ne_nil (fun e => hD (congrArg List.length e))
  have hrow : (self.view.index self.view.ext.first).exts = self.exts.tail := by
    simp only [View.index, Arr.view, hl, View.exts, Arr.exts, Layout.exts, List.map_cons, List.tail_cons]
  have hsz : self.view.size = (self.exts.head?.map Ext.size).getD 0 := by
    rw [(C01.shape_functions_agree self.view hv.view_wf).2.2.1]
    simp only [View.ext, Arr.view, hl, Arr.exts, Layout.exts, List.map_cons, List.head?_cons, Option.map_some, Option.getD_some]
  have hae : (absArr h self).exts = self.exts := rfl
  by_cases hcond : count = (self.exts.head?.map Ext.size).getD 0 ∧ (count = 0 ∨ Exts.eqv inner self.exts.tail = true)
  · unfold assignRange listVal
    simp only [hae, hrow, hsz]
    rw [if_pos hcond, if_pos hcond]
    obtain ⟨hc, hi⟩ := hcond
    by_cases h0 : count = 0
    · -- no rows: nothing happens, and the array has no elements
      have hn0 : self.numElements = 0 := (hv.head_size hD).mp (hc.symm.trans h0)
      subst h0
      obtain rfl := vals_nil_of_count_zero hlen
      exact outcome_inplace hv h [] (by rw [hn0]; rfl) (fun _ => rfl) (fun hn => absurd hn0 hn)
    · -- rows: the array has elements
      have hsne : self.numElements ≠ 0 := fun hz => h0 (hc.trans ((hv.head_size hD).mpr hz))
      obtain ⟨e, rest, hx⟩ : ∃ e rest, self.exts = e :: rest := ⟨d.ext, sub.map Dim.ext, by simp only [Arr.exts, hl, Layout.exts, List.map_cons]⟩
      have hok : ExtsOK (e :: rest) := hx ▸ hv.exts_ok
      have hnz : nElems (e :: rest) ≠ 0 := by rw [← hx, hv.nElems_exts]; exact hsne
      rw [hx] at hc hi
      simp only [List.head?_cons, Option.map_some, Option.getD_some, List.tail_cons] at hc hi
      have heq : Exts.eqv inner rest = true := hi.resolve_left h0
      have hne' : nElems inner = nElems rest := eqv_nElems _ _ heq
      have hM := nElems_nonneg hok.tail
      have hS : 0 ≤ e.size := Int.sub_nonneg.mpr hok.head
      have hlen' : (vals.length : Int) = count * nElems rest := by
        rw [hlen]; simp [rangeExts, h0, nElems, Ext.size, hne']
      have hvl : vals.length = count.toNat * (nElems rest).toNat := by
        rw [← Int.toNat_mul (hc ▸ hS) hM, ← hlen', Int.toNat_natCast]
      have hvn : vals.length = self.numElements.toNat := by
        rw [← hv.nElems_exts, hx, nElems, ← hc, ← hlen', Int.toNat_natCast]
      rw [exts_numElements_eq, hne', List.range_eq_range',
        assignRows_eq hv hx (fun hz => hnz (by rw [nElems, hz, Int.mul_zero])) inner heq count.toNat 0 vals h
          (by rw [Nat.zero_add, Int.toNat_of_nonneg (hc ▸ hS), hc]; exact Int.le_refl _) hvl, Nat.zero_mul]
      exact outcome_inplace hv _ _ (by rw [List.length_map, hvn]) (fun h0 => absurd h0 hsne)
        (fun _ d hdb hdl => by rw [hdb, writeList_live hdl vals (hvn.trans hv.cells_length.symm)])
  · rw [assignRange_rebuild h self count inner vals (by rw [hsz, hrow]; exact hcond)]
    unfold listVal
    simp only [hae]
    rw [if_neg hcond]
    exact viaTemp_outcome hv (rangeCtor_outcome h count inner vals hes hlen)
      (by show (Layout.ofExts _).length ≠ 0; rw [ofExts_length]; exact Nat.succ_ne_zero _)

/-- `operator=(initializer_list)`: the empty list clears, any other list is `assign(begin, end)` -/
theorem ilAssign_outcome {h : Heap α} {self : Arr} (hv : Valid h self) (hD : self.dim ≠ 0) (count : Int) (inner : List Ext)
    (vals : List α) (hes : ExtsOK (rangeExts count inner)) (hlen : (vals.length : Int) = nElems (rangeExts count inner)) :
    Outcome h (ilAssign h self count inner vals).1 (ownBlock self) (ilAssign h self count inner vals).2
      (if count = 0 then ⟨List.replicate self.exts.length ⟨0, 0⟩, []⟩ else listVal (absArr h self) count inner vals) := by
  unfold ilAssign
  by_cases h0 : count = 0
  · simp only [h0, if_true]; exact clear_outcome hv hD
  · simp only [h0, if_false]; exact assignRange_outcome hv hD count inner vals hes hlen

/-- `array(std::initializer_list)`: empty list → default array; otherwise the temporary built from the range is adopted -/
theorem ilCtor_outcome (cfg : Cfg α) (h : Heap α) (count : Int) (inner : List Ext) (vals : List α)
    (hes : ExtsOK (rangeExts count inner)) (hlen : (vals.length : Int) = nElems (rangeExts count inner)) :
    Outcome h (ilCtor cfg h count inner vals).1 (fun _ => False) (ilCtor cfg h count inner vals).2
      ⟨collapse (rangeExts count inner), vals.map some⟩ := by
  unfold ilCtor
  by_cases h0 : count = 0
  · subst h0
    obtain rfl := vals_nil_of_count_zero hlen
    rw [if_pos rfl, show rangeExts 0 inner = List.replicate (inner.length + 1) ⟨0, 0⟩ by simp [rangeExts, List.replicate_succ],
      collapse_replicate_zero]
    exact defaultCtor_outcome cfg h (Nat.succ_ne_zero _)
  · simp only [h0, if_false]
    have hd : (rangeCtor h count inner vals).2.dim ≠ 0 := by
      show (Layout.ofExts _).length ≠ 0; rw [ofExts_length]; exact Nat.succ_ne_zero _
    show Outcome h (deallocate (rangeCtor h count inner vals).1 ⟨none, emptyLay (rangeCtor h count inner vals).2.dim⟩) _
      (moveCtor (rangeCtor h count inner vals).2).1 _
    rw [deallocate_empty _ _ hd]
    exact (rangeCtor_outcome h count inner vals hes hlen).moved

end Own
end Multi
