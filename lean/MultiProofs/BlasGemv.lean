/-
  MultiProofs.BlasGemv — specification of y := alpha·M·x + beta·y on logical contents, and the certificate `GemvOK`
  (sufficient for: the xGEMV call is legal and its reference post-state is the specification).

  The reference xGEMV returns WITHOUT scaling y when m = 0 or n = 0 (dgemv.f "Quick return if possible"), so a call
  with an empty inner dimension does not compute beta·y: the certificate requires a non-empty inner dimension.
-/
import MultiModel.Blas
import MultiProofs.BlasLemmas
import MultiProofs.BlasGemm

namespace Multi.Blas
variable {R : Type} [CRing R] [DecidableEq R]

structure GemvSpec (alpha beta : R) (m : Mat) (x y : Vec) (mem mem' : Mem R) : Prop where
  elems : ∀ i : Int, 0 ≤ i → i < y.n →
    y.load mem' i = alpha * sumZ m.n1 (fun l => m.load mem i l * x.load mem l) + beta * y.load mem i
  frame : ∀ addr : Int, (¬ ∃ i : Int, 0 ≤ i ∧ i < y.n ∧ addr = y.addr i) → mem' addr = mem addr

omit [CRing R] [DecidableEq R] in
def GemvCall.Legal (g : GemvCall R) : Prop :=
  isTrans g.t = true ∧ 0 ≤ g.m ∧ 0 ≤ g.n ∧ 1 ≤ g.lda ∧ g.m ≤ g.lda ∧ g.incx ≠ 0 ∧ g.incy ≠ 0

omit [CRing R] [DecidableEq R] in
theorem gemv_illegal_none_iff (g : GemvCall R) : g.illegal = none ↔ g.Legal := by
  unfold GemvCall.illegal GemvCall.Legal
  simp only [ite_some_eq_none, Bool.not_eq_true', Bool.not_eq_false, Int.not_lt, maxI_le_iff, and_true, and_assoc, ne_eq]

/-- THE CERTIFICATE for xGEMV: the call works on the vectors x and y as they are, and its matrix operand is the logical
    matrix M (rows m.n0, columns m.n1) -/
def GemvOK (cl : Call R) (alpha beta : R) (m : Mat) (x y : Vec) : Prop :=
  ∃ g, cl = .gemv g ∧ g.illegal = none ∧ g.alpha = alpha ∧ g.beta = beta ∧ x.cj = false ∧ y.cj = false ∧
  g.x = x.base ∧ g.incx = x.inc ∧ g.y = y.base ∧ g.incy = y.inc ∧ 0 < y.inc ∧ 1 ≤ m.n1 ∧ y.n = m.n0 ∧
  ( (g.t = 'N' ∧ g.m = m.n0 ∧ g.n = m.n1) ∨ (g.t ≠ 'N' ∧ g.n = m.n0 ∧ g.m = m.n1) ) ∧
  OpIs g.t g.a g.lda m.n0 m.n1 m.lm

theorem gemv_exec_hit {g : GemvCall R} (h : g.illegal = none) (hq : ¬ (g.m = 0 ∨ g.n = 0 ∨ (g.alpha = 0 ∧ g.beta = 1))) (mem : Mem R) {addr i : Int}
    (hv : vecIndex g.y g.incy (if g.t = 'N' then g.m else g.n) addr = some i) :
    g.exec mem addr = g.alpha * sumZ (if g.t = 'N' then g.n else g.m) (fun l => opElem g.t g.a g.lda mem i l * mem (g.x + l * g.incx)) + g.beta * mem addr := by
  unfold GemvCall.exec
  simp only [h, Option.isSome_none, Bool.false_eq_true, if_false, hq, hv]

theorem gemv_exec_miss {g : GemvCall R} (mem : Mem R) {addr : Int}
    (hv : vecIndex g.y g.incy (if g.t = 'N' then g.m else g.n) addr = none) : g.exec mem addr = mem addr := by
  unfold GemvCall.exec
  by_cases h1 : g.illegal.isSome = true
  · rw [if_pos h1]
  by_cases hq : (g.m = 0 ∨ g.n = 0 ∨ (g.alpha = 0 ∧ g.beta = 1))
  · rw [if_neg h1, if_pos hq]
  rw [if_neg h1, if_neg hq]
  simp only [hv]

theorem gemvOK_sound {cl : Call R} {cplx : Bool} {alpha beta : R} {m : Mat} {x y : Vec} (h : GemvOK cl alpha beta m x y) :
    cl.illegalL cplx false = none ∧ ∀ mem : Mem R, GemvSpec alpha beta m x y mem (cl.execL cplx false mem) := by
  obtain ⟨g, rfl, hleg, rfl, rfl, hxc, hyc, hx, hix, hy, hiy, hyi, hk1, hyn, hor, hop⟩ := h
  have hlen : (if g.t = 'N' then g.m else g.n) = y.n ∧ (if g.t = 'N' then g.n else g.m) = m.n1 := by
    rcases hor with ⟨ht, h1, h2⟩ | ⟨ht, h1, h2⟩
    · rw [if_pos ht, if_pos ht]; exact ⟨h1.trans hyn.symm, h2⟩
    · rw [if_neg ht, if_neg ht]; exact ⟨h1.trans hyn.symm, h2⟩
  refine ⟨hleg, fun mem => ?_⟩
  show GemvSpec g.alpha g.beta m x y mem (g.exec mem)
  constructor
  · intro i hi0 hi
    unfold Vec.load
    rw [hyc, cjIf_false, cjIf_false, ← hy, ← hiy]
    by_cases hq : (g.m = 0 ∨ g.n = 0 ∨ (g.alpha = 0 ∧ g.beta = 1))
    · -- quick return: only alpha = 0, beta = 1 is possible here
      have hm0 : 0 < m.n0 := hyn ▸ Int.lt_of_le_of_lt hi0 hi
      have hmn : g.m ≠ 0 ∧ g.n ≠ 0 := by
        rcases hor with ⟨_, h1, h2⟩ | ⟨_, h1, h2⟩ <;> rw [h1, h2]
        · exact ⟨Int.ne_of_gt hm0, Int.ne_of_gt hk1⟩
        · exact ⟨Int.ne_of_gt hk1, Int.ne_of_gt hm0⟩
      have hab : g.alpha = 0 ∧ g.beta = 1 := (hq.resolve_left hmn.1).resolve_left hmn.2
      have : g.exec mem (g.y + i * g.incy) = mem (g.y + i * g.incy) := by
        unfold GemvCall.exec
        simp only [hleg, Option.isSome_none, Bool.false_eq_true, if_false, hq, if_true]
      rw [this, hab.1, hab.2, CRing.zero_mul, CRing.zero_add, CRing.one_mul]
    · rw [gemv_exec_hit hleg hq mem (hlen.1 ▸ vecIndex_hit hi0 hi (hiy ▸ hyi)), hlen.2]
      congr 2
      apply sumZ_congr
      intro l hl0 hl
      rw [opIs_elem hop mem hi0 (hyn ▸ hi) hl0 hl, hx, hix, hxc]
      rfl
  · intro addr hno
    exact gemv_exec_miss mem (vecIndex_none fun ⟨i, hi0, hi, e⟩ => hno ⟨i, hi0, hlen.1 ▸ hi, e.trans (by rw [hy, hiy]; rfl)⟩)

end Multi.Blas
