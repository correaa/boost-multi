/-
  MultiProofs.LedgerOps — every operation of MultiModel.Ledger, run from a state that satisfies the invariants, with or
  without an armed fault: it never runs into undefined behaviour, on normal return the invariants hold again, and when an
  exception propagates they hold as well (for the repaired code; the code as it stood is covered by the negation witnesses
  of MultiProofs.C09).  That is `OpSpec`, proved for all operations in `run_spec`; `runHist_invariant` is the induction over
  histories that C08, C09 and C10 share.

  Each operation's program (shared by the operations that differ in a parameter only) has a lemma `…_post` about its run from a state `s` with `Mid c K s0 s`: the operation began in
  `s0` and the invariants (`Invs`: `Inv`, `Wn` and, under the side condition `K` of C10, `InvA`) hold at `s`.  It ends in
  `Mid c K s0 s'` on normal return and in `Thrown c s0 s'` when an exception leaves it, so the lemmas compose along `>>=`;
  `OpSpec.intro` turns the two into `OpSpec`.  Where an operation changes heap or pool, the `Invs` lemma for that kind of
  change (one per lemma of `Inv` / `InvA` in LedgerInv and LedgerArr) carries the three invariants across together.
-/
import MultiProofs.LedgerArr

namespace Multi
namespace Ledger

theorem extSize_eqv {a b : Ext} (h : a.eqv b = true) : extSize a = extSize b := by
  unfold Ext.eqv Ext.isEmpty at h
  unfold extSize
  simp only [Bool.or_eq_true, Bool.and_eq_true, beq_iff_eq] at h
  rcases h with ⟨h1, h2⟩ | ⟨h1, h2⟩
  · rw [h1, h2]; simp
  · rw [h1, h2]

theorem nElems_extsEq : ∀ {a b : List Ext}, extsEq a b = true → nElems a = nElems b
  | [], [], _ => rfl
  | x :: xs, y :: ys, h => by
    simp only [extsEq, Bool.and_eq_true] at h
    simp only [nElems, extSize_eqv h.1, nElems_extsEq h.2]
  | [], _ :: _, h => by simp [extsEq] at h
  | _ :: _, [], h => by simp [extsEq] at h

theorem eqv_ext_refl (e : Ext) : e.eqv e = true := by simp [Ext.eqv]

theorem extsEq_refl : ∀ (es : List Ext), extsEq es es = true
  | [] => rfl
  | e :: es => by simp [extsEq, eqv_ext_refl, extsEq_refl es]

theorem nElems_reported : ∀ (es : List Ext), nElems (reported es) = nElems es
  | [] => rfl
  | e :: es => by
    simp only [reported, nElems]
    rw [nElems_reported es]
    split
    · rename_i h
      rw [h]
      have : extSize (⟨0, 0⟩ : Ext) = 0 := by simp [extSize]
      rw [this]; simp
    · rfl

theorem nElems_emptyExts {d : Nat} (h : 1 ≤ d) : nElems (emptyExts d) = 0 := by
  unfold emptyExts
  cases d with
  | zero => omega
  | succ k => simp [List.replicate, nElems, extSize]

theorem nElems_viewExts_le (x : Arr) (sl : Option (Int × Int)) (h : sliceOk x sl = true) :
    nElems (viewExts x sl) ≤ nElems x.ext := by
  unfold viewExts
  cases sl with
  | none => exact Nat.le_refl _
  | some p =>
    obtain ⟨lo, hi⟩ := p
    cases hx : x.ext with
    | nil => exact Nat.le_refl _
    | cons e rest =>
      simp only [sliceOk, hx, Bool.and_eq_true, decide_eq_true_eq] at h
      simp only [nElems]
      apply Nat.mul_le_mul_right
      split
      · exact Nat.zero_le _
      · exact Int.toNat_le_toNat (Int.sub_le_sub h.2 h.1.1)

/-- `num_elements()` is the product of the extents `extensions()` reports (C01 proves this of the layouts; here it is
    carried along as part of the state invariant) -/
def Wn (A : List (Option Arr)) : Prop := ∀ (i : Nat) (a : Arr), A[i]? = some (some a) → a.n = nElems a.ext

theorem Wn.set {A : List (Option Arr)} (h : Wn A) {i : Nat} {o : Option Arr} (ho : ∀ a, o = some a → a.n = nElems a.ext) :
    Wn (A.set i o) :=
  forall_set (fun k a _ hk => h k a hk) ho

/-- assumptions on the configuration: D ≥ 1, and trivially default-constructible ⇒ trivially destructible -/
structure Cfg.OK (c : Cfg) : Prop where
  wf : c.WF
  dim : 1 ≤ c.dim

/-- the full state invariant of C08 -/
def Good (c : Cfg) (s : St) : Prop := InvS c s ∧ Wn s.arrs

/-- the repair of the operation's finding class is in the code -/
def Op.fixedIn (c : Cfg) : Op → Bool
  | .ctorExt .. | .ctorFill .. | .ctorCopy .. | .ctorCopyA .. | .ctorView .. | .ctorRange .. => c.fx6
  | .assignView .. | .assignRange .. | .saMove .. => c.fx6
  | .assignCopy .. | .assignFill .. | .reextentRv .. => c.fx7
  | .reextent .. | .reextentFill .. => c.fx8
  | _ => true

def Op.isSaMove : Op → Bool
  | .saMove .. => true
  | _ => false

/-- C10 finding classes: operations that may hand a block to an unequal allocator -/
def Op.affectedA (c : Cfg) : Op → Bool
  | .assignMove .. => !(c.pocma || c.iae || c.fx9a)
  | .ctorMoveA .. => !(c.iae || c.fx9a)
  | .assignCopy .. => c.pocca && !c.iae && !c.fx9c
  | .assignView .. | .assignRange .. => !(c.fx9 || c.pocma || c.iae)
  | _ => false

/-- allocator stored in slot `i` -/
def allocOf (s : St) (i : Nat) : Option AllocId := (getArr s i).map (·.alloc)

/-- what the operation prescribes for the allocator of its target -/
def Op.allocPost (c : Cfg) (s s' : St) : Op → Prop
  | .ctorDefault i a | .ctorExt i a _ | .ctorFill i a _ | .ctorCopyA i _ a | .ctorView i _ a _ | .ctorRange i _ a
  | .ctorMoveA i _ a => allocOf s' i = some a
  | .ctorCopy i j => allocOf s' i = (allocOf s j).map c.select
  | .ctorMove i j => allocOf s' i = allocOf s j
  | .assignCopy i j => allocOf s' i = if c.pocca then allocOf s j else allocOf s i
  | .assignMove i j => allocOf s' i = if c.pocma then allocOf s j else allocOf s i
  | .swap i j => allocOf s' i = (if c.pocs then allocOf s j else allocOf s i) ∧
                 allocOf s' j = (if c.pocs then allocOf s i else allocOf s j)
  | .reextent i _ | .reextentFill i _ | .reextentRv i _ | .reshape i _ | .clear i | .assignFill i _ | .viewAssign i _ =>
    allocOf s' i = allocOf s i
  | _ => True

/-- specification of one operation run from a good state -/
def OpSpec (c : Cfg) (op : Op) (s : St) : Prop :=
  Out (op.run c s)
    (fun _ s' => Good c s' ∧ NF s s' ∧ s'.arrs.length = s.arrs.length ∧
      (op.affectedA c = false → InvAS c s → InvAS c s') ∧ op.allocPost c s s')
    (fun s' => s.fuel ≠ none ∧ s'.arrs.length = s.arrs.length ∧ Good c s')
    (s.fuel ≠ none ∧ op.isSaMove = true)

theorem get_bind {α : Type} (f : St → M α) (s : St) : (get >>= f) s = f s s := rfl

/-- how every operation begins: it looks up the arrays it works on; an empty slot would be undefined behaviour -/
theorem Out.withArr {α : Type} {f : Arr → M α} {s : St} {j : Nat} {y : Arr} {P : α → St → Prop} {Q : St → Prop} {T : Prop}
    (hy : getArr s j = some y) (h : Out (f y s) P Q T) :
    Out ((get >>= fun s => match getArr s j with | none => ub | some y => f y) s) P Q T := by
  rw [get_bind]
  simp only [hy]
  exact h

theorem Out.withArr2 {α : Type} {f : Arr → Arr → M α} {s : St} {i j : Nat} {x y : Arr} {P : α → St → Prop} {Q : St → Prop}
    {T : Prop} (hx : getArr s i = some x) (hy : getArr s j = some y) (h : Out (f x y s) P Q T) :
    Out ((get >>= fun s => match getArr s i, getArr s j with | some x, some y => f x y | _, _ => ub) s) P Q T := by
  rw [get_bind]
  simp only [hx, hy]
  exact h

theorem alive_iff {s : St} {i : Nat} : alive s i = true ↔ ∃ x, getArr s i = some x := by
  unfold alive
  cases getArr s i <;> simp

theorem and_alive {b : Bool} {s : St} {j : Nat} (h : (b && alive s j) = true) : b = true ∧ ∃ y, getArr s j = some y :=
  (Bool.and_eq_true_iff.mp h).imp id alive_iff.mp

theorem vacant_iff {s : St} {i : Nat} : vacant s i = true ↔ i < s.arrs.length ∧ s.arrs[i]? = some none := by
  unfold vacant alive
  constructor
  · intro h
    simp only [Bool.and_eq_true, decide_eq_true_eq, Bool.not_eq_eq_eq_not, Bool.not_true, Option.isSome_eq_false_iff,
      Option.isNone_iff_eq_none] at h
    exact ⟨h.1, getArr_none h.1 h.2⟩
  · intro ⟨h1, h2⟩
    simp only [Bool.and_eq_true, decide_eq_true_eq, Bool.not_eq_eq_eq_not, Bool.not_true, Option.isSome_eq_false_iff,
      Option.isNone_iff_eq_none]
    refine ⟨h1, ?_⟩
    unfold getArr
    rw [h2]; rfl

theorem allocOf_of_getArr {s : St} {i : Nat} {x : Arr} (h : getArr s i = some x) : allocOf s i = some x.alloc := by
  simp [allocOf, h]

theorem allocOf_of_slot {s : St} {i : Nat} {x : Arr} (h : s.arrs[i]? = some (some x)) : allocOf s i = some x.alloc := by
  simp [allocOf, getArr, h]

theorem allocOf_set_self {s' : St} {A : List (Option Arr)} {i : Nat} {old : Option Arr} {x : Arr}
    (h : s'.arrs = A.set i (some x)) (hi : A[i]? = some old) : allocOf s' i = some x.alloc :=
  allocOf_of_slot (by rw [h]; exact List.getElem?_set_self (List.getElem?_eq_some_iff.mp hi).1)

theorem allocOf_congr {s s' : St} (h : s'.arrs = s.arrs) (i : Nat) : allocOf s' i = allocOf s i := by
  unfold allocOf getArr; rw [h]

theorem slot_self {s s' : St} {i : Nat} {old o : Option Arr} (h : s'.arrs = s.arrs.set i o) (hi : s.arrs[i]? = some old) :
    s'.arrs[i]? = some o := by
  rw [h]; exact List.getElem?_set_self (List.getElem?_eq_some_iff.mp hi).1

theorem set2_first {A : List (Option Arr)} {i j : Nat} {old o o' : Option Arr} (hij : i ≠ j) (hi : A[i]? = some old) :
    ((A.set i o).set j o')[i]? = some o :=
  (List.getElem?_set_ne (Ne.symm hij)).trans (List.getElem?_set_self (List.getElem?_eq_some_iff.mp hi).1)

theorem slot_other {s s' : St} {i j : Nat} {o v : Option Arr} (h : s'.arrs = s.arrs.set i o) (hij : i ≠ j)
    (hj : s.arrs[j]? = some v) : s'.arrs[j]? = some v := by
  rw [h, List.getElem?_set_ne hij]; exact hj

/-- in the specification of an operation `K` says that the allocator invariant held when the operation began and that the
    operation is outside the C10 finding classes -/
structure Invs (c : Cfg) (K : Prop) (B : List Block) (A : List (Option Arr)) : Prop where
  inv : Inv c B A
  wn : Wn A
  invA : K → InvA c B A

namespace Invs

variable {c : Cfg} {K : Prop} {B : List Block} {A : List (Option Arr)}

theorem good {s : St} (h : Invs c K s.blocks s.arrs) : Good c s := ⟨h.inv, h.wn⟩

theorem set_nonowning (h : Invs c K B A) {i : Nat} {old new : Option Arr} (hi : A[i]? = some old)
    (hold : ∀ b, ownsB b old = false) (hnew : ∀ a, new = some a → a.n = 0 ∧ nElems a.ext = 0) : Invs c K B (A.set i new) :=
  ⟨h.inv.set_nonowning hi hold (fun a e => (hnew a e).1), h.wn.set (fun a e => (hnew a e).1.trans (hnew a e).2.symm),
    fun k => (h.invA k).set_nonowning (fun a e => (hnew a e).1)⟩

theorem relabel (h : Invs c K B A) {i : Nat} {a a' : Arr} (hi : A[i]? = some (some a)) (hbase : a'.base = a.base)
    (hn : a'.n = a.n) (he : a'.n = nElems a'.ext) (heq : K → c.eqv a.alloc a'.alloc = true) : Invs c K B (A.set i (some a')) :=
  ⟨h.inv.relabel hi hbase hn, h.wn.set (by rintro _ ⟨⟩; exact he),
    fun k => (h.invA k).relabel hi hbase hn (heq k)⟩

theorem release (h : Invs c K B A) {i : Nat} {x : Arr} {new : Option Arr} {B1 : List Block} (hi : A[i]? = some (some x))
    (hr : RelB c B B1 x) (hnew : ∀ a, new = some a → a.n = 0 ∧ nElems a.ext = 0) : Invs c K B1 (A.set i new) := by
  have hn := fun a e => (hnew a e).1
  exact ⟨h.inv.of_relB hi hr hn, h.wn.set (fun a e => (hnew a e).1.trans (hnew a e).2.symm),
    fun k => (h.invA k).of_relB h.inv hi hr hn⟩

theorem replace (h : Invs c K B A) {a : AllocId} {B1 B2 : List Block} {i : Nat} {x x' : Arr} (hi : A[i]? = some (some x))
    (hr : RelB c B B1 x) (hnew : NewB c a B B1 B2 x') (he : x'.n = nElems x'.ext) (hal : K → c.eqv a x'.alloc = true) :
    Invs c K B2 (A.set i (some x')) :=
  ⟨h.inv.replace hi hr hnew, h.wn.set (by rintro _ ⟨⟩; exact he), fun k => (h.invA k).replace h.inv hi hr hnew (hal k)⟩

theorem set_cells (h : Invs c K B A) {b : Nat} {blk : Block} {cs : List Cell} (hB : B[b]? = some blk) (hf : blk.freed = false)
    (hok : CellsOK c { blk with cells := cs }) : Invs c K (withCells B b blk cs) A :=
  ⟨h.inv.set_cells hB (fun _ => hok) (fun e => by rw [hf] at e; cases e), h.wn, fun k => (h.invA k).set_cells hB⟩

theorem transfer (h : Invs c K B A) {i j : Nat} {old : Option Arr} {y x' y' : Arr} (hij : i ≠ j) (hi : A[i]? = some old)
    (hold : ∀ b, ownsB b old = false) (hj : A[j]? = some (some y)) (hxb : x'.base = y.base) (hxn : x'.n = y.n)
    (hxe : x'.ext = y.ext) (hyn : y'.n = 0) (hye : nElems y'.ext = 0) (heq : K → c.eqv y.alloc x'.alloc = true) :
    Invs c K B ((A.set i (some x')).set j (some y')) :=
  ⟨h.inv.transfer hij hi hold hj hxb hxn hyn,
    (h.wn.set (by rintro _ ⟨⟩; rw [hxn, hxe]; exact h.wn j y hj)).set (by rintro _ ⟨⟩; rw [hyn, hye]),
    fun k => (h.invA k).transfer hij hj hxb hxn hyn fun b blk hn hb hB hf =>
      eqv_trans ((h.invA k).ownerEq j y b blk hj hn hb hB hf) (heq k)⟩

theorem exchange (h : Invs c K B A) {i j : Nat} {x y x' y' : Arr} (hij : i ≠ j) (hi : A[i]? = some (some x))
    (hj : A[j]? = some (some y)) (hxb : x'.base = y.base) (hxn : x'.n = y.n) (hxe : x'.ext = y.ext) (hyb : y'.base = x.base)
    (hyn : y'.n = x.n) (hye : y'.ext = x.ext) (heqx : K → c.eqv y.alloc x'.alloc = true) (heqy : K → c.eqv x.alloc y'.alloc = true) :
    Invs c K B ((A.set i (some x')).set j (some y')) :=
  ⟨h.inv.exchange hij hi hj hxb hxn hyb hyn,
    (h.wn.set (by rintro _ ⟨⟩; rw [hxn, hxe]; exact h.wn j y hj)).set (by rintro _ ⟨⟩; rw [hyn, hye]; exact h.wn i x hi),
    fun k => (h.invA k).exchange hij hi hj hxb hxn hyb hyn
      (fun b blk hn hb hB hf => eqv_trans ((h.invA k).ownerEq j y b blk hj hn hb hB hf) (heqx k))
      (fun b blk hn hb hB hf => eqv_trans ((h.invA k).ownerEq i x b blk hi hn hb hB hf) (heqy k))⟩

theorem append_freed (h : Invs c K B A) {blk : Block} (hfr : blk.freed = true) (hok : FreedOK c blk)
    (heq : c.eqv blk.freedBy blk.alloc = true) : Invs c K (B ++ [blk]) A :=
  ⟨h.inv.append_freed hfr hok, h.wn, fun k => (h.invA k).append_block h.inv (fun _ => heq)⟩

theorem install {s s1 : St} {a : AllocId} {n : Nat} {p : Option Nat} {i : Nat} {old : Option Arr} {x' : Arr}
    (h : Invs c K s.blocks s.arrs) (hb : Built c a n s s1 p) (hi : s.arrs[i]? = some old) (hold : ∀ b, ownsB b old = false)
    (hxb : x'.base = p) (hxn : x'.n = n) (he : x'.n = nElems x'.ext) (hal : K → c.eqv a x'.alloc = true) :
    Invs c K s1.blocks (s.arrs.set i (some x')) := by
  have hW := h.wn.set (i := i) (o := some x') (by rintro _ ⟨⟩; exact he)
  obtain ⟨_, _, hcase⟩ := hb
  rcases hcase with ⟨hn, hp, hbl⟩ | ⟨blk, hn, hp, hbl, hfr, hsz, hc, hba⟩
  · have hz : ∀ y, some x' = some y → y.n = 0 := by rintro _ ⟨⟩; exact hxn.trans hn
    rw [hbl]
    exact ⟨h.inv.set_nonowning hi hold hz, hW, fun k => (h.invA k).set_nonowning hz⟩
  · have hbase : x'.base = some s.blocks.length := by rw [hxb, hp]
    rw [hbl]
    exact ⟨h.inv.install hi hold (hxn ▸ hn) hbase hfr (hsz.trans hxn.symm) hc, hW,
      fun k => (h.invA k).install h.inv hbase hfr (by rw [hba]; exact hal k)⟩

end Invs

theorem CleanedB.invs {c : Cfg} {K : Prop} {a : AllocId} {B B' : List Block} {A : List (Option Arr)} (h : CleanedB c a B B')
    (hI : Invs c K B A) : Invs c K B' A := by
  rcases h with rfl | ⟨blk, rfl, hfr, hok, hby, hal⟩
  · exact hI
  · exact hI.append_freed hfr hok (by rw [hby, hal]; exact eqv_refl c a)

/-- what `OpSpec` demands of the state in which an exception leaves an operation begun in `s0` -/
def Thrown (c : Cfg) (s0 s' : St) : Prop := s0.fuel ≠ none ∧ s'.arrs.length = s0.arrs.length ∧ Good c s'

/-- the operation begun in `s0` has reached `s` with the invariants in place: what `OpSpec` demands on normal return -/
structure Mid (c : Cfg) (K : Prop) (s0 s : St) : Prop where
  invs : Invs c K s.blocks s.arrs
  nf : NF s0 s
  len : s.arrs.length = s0.arrs.length

theorem OpSpec.intro {c : Cfg} {op : Op} {s : St}
    (h : Out (op.run c s) (fun _ s' => Mid c (op.affectedA c = false ∧ InvAS c s) s s' ∧ op.allocPost c s s') (Thrown c s)
      (s.fuel ≠ none ∧ op.isSaMove = true)) : OpSpec c op s :=
  h.imp (fun _ _ ⟨hm, hR⟩ => ⟨hm.invs.good, hm.nf, hm.len, fun h1 h2 => hm.invs.invA ⟨h1, h2⟩, hR⟩)

namespace Mid

variable {c : Cfg} {K : Prop} {s0 s s' : St}

theorem refl (hG : Good c s) (hA : K → InvAS c s) : Mid c K s s := ⟨⟨hG.1, hG.2, hA⟩, id, rfl⟩

theorem next (h : Mid c K s0 s) (hI : Invs c K s'.blocks s'.arrs) (hnf : NF s s') (hl : s'.arrs.length = s.arrs.length) :
    Mid c K s0 s' := ⟨hI, h.nf.trans hnf, hl.trans h.len⟩

theorem has (h : Mid c K s0 s) {j : Nat} {y : Arr} (hj : s.arrs[j]? = some (some y)) : HasBlock c s.blocks y :=
  h.invs.inv.valid j y hj

theorem cleaned (h : Mid c K s0 s) {a : AllocId} (hcl : s.fuel ≠ none ∧ Cleaned c a s s') : Thrown c s0 s' :=
  ⟨fun e => hcl.1 (h.nf e), by rw [hcl.2.1]; exact h.len, Invs.good (by rw [hcl.2.1]; exact hcl.2.2.invs h.invs)⟩

theorem setSlot (h : Mid c K s0 s) {i : Nat} {o : Option Arr} {P : Unit → St → Prop} {Q : St → Prop} {T : Prop}
    (hI : Invs c K s.blocks (s.arrs.set i o)) (hP : ∀ s', Mid c K s0 s' → s'.arrs = s.arrs.set i o → P () s') :
    Out (Ledger.setSlot i o s) P Q T :=
  hP _ (h.next hI id (List.length_set ..)) rfl

/-- the write to a slot that ends a stretch `s … s1` during which the invariants were suspended (a block had been built or
    returned and the pool not yet updated) -/
theorem setSlot_at (h : Mid c K s0 s) {s1 : St} {i : Nat} {o : Option Arr} {P : Unit → St → Prop} {Q : St → Prop} {T : Prop}
    (hnf : NF s s1) (harr : s1.arrs.set i o = s.arrs.set i o) (hI : Invs c K s1.blocks (s.arrs.set i o))
    (hP : ∀ s', Mid c K s0 s' → s'.arrs = s.arrs.set i o → P () s') : Out (Ledger.setSlot i o s1) P Q T :=
  hP _ ⟨by rw [← harr] at hI; exact hI, h.nf.trans hnf, (congrArg List.length harr).trans ((List.length_set ..).trans h.len)⟩ harr

theorem setSlot_bind (h : Mid c K s0 s) {β : Type} {i : Nat} {o : Option Arr} {f : Unit → M β} {P : β → St → Prop}
    {Q : St → Prop} {T : Prop} (hI : Invs c K s.blocks (s.arrs.set i o))
    (hf : ∀ s', Mid c K s0 s' → s'.arrs = s.arrs.set i o → Out (f () s') P Q T) :
    Out ((Ledger.setSlot i o >>= f) s) P Q T :=
  hf _ (h.next hI id (List.length_set ..)) rfl

theorem setSlot2 (h : Mid c K s0 s) {i j : Nat} {o o' : Option Arr} {P : Unit → St → Prop} {Q : St → Prop} {T : Prop}
    (hI : Invs c K s.blocks ((s.arrs.set i o).set j o'))
    (hP : ∀ s', Mid c K s0 s' → s'.arrs = (s.arrs.set i o).set j o' → P () s') :
    Out ((Ledger.setSlot i o >>= fun _ => Ledger.setSlot j o') s) P Q T :=
  hP _ (h.next hI id (by simp)) rfl

end Mid

variable {c : Cfg} {K : Prop} {s0 s : St}

theorem Built.setSlot {al : AllocId} {n : Nat} {s1 : St} {p : Option Nat} {i : Nat} {old : Option Arr} {x' : Arr}
    (hb : Built c al n s s1 p) (h : Mid c K s0 s) (hi : s.arrs[i]? = some old) (hold : ∀ b, ownsB b old = false)
    (hxb : x'.base = p) (hxn : x'.n = n) (he : n = nElems x'.ext) (hal : K → c.eqv al x'.alloc = true)
    {Q : St → Prop} {T : Prop} :
    Out (Ledger.setSlot i (some x') s1) (fun _ s' => Mid c K s0 s' ∧ allocOf s' i = some x'.alloc) Q T := by
  exact h.setSlot_at hb.1 (by rw [hb.2.1]) (h.invs.install hb hi hold hxb hxn (hxn.trans he) hal)
    (fun _ h1 h2 => ⟨h1, allocOf_set_self h2 hi⟩)

/-- a slot that owns nothing receives a newly built block; `mk p` is the array stored.  If the construction throws, `build`
    has cleaned up after itself. -/
theorem Mid.install (h : Mid c K s0 s) {m : M (Option Nat)} {al al' : AllocId} {n : Nat} {T : Prop}
    (hm : Out (m s) (fun p s' => Built c al n s s' p) (fun s' => s.fuel ≠ none ∧ Cleaned c al s s') T)
    {i : Nat} {old : Option Arr} (hi : s.arrs[i]? = some old) (hold : ∀ b, ownsB b old = false) {mk : Option Nat → Arr}
    (hmk : ∀ p, (mk p).base = p ∧ (mk p).n = n ∧ (mk p).alloc = al' ∧ n = nElems (mk p).ext) (hal : K → c.eqv al al' = true) :
    Out ((m >>= fun p => Ledger.setSlot i (some (mk p))) s) (fun _ s' => Mid c K s0 s' ∧ allocOf s' i = some al') (Thrown c s0) T := by
  apply hm.bind _ (fun _ => h.cleaned)
  intro p s1 hb
  obtain ⟨h1, h2, h3, h4⟩ := hmk p
  rw [← h3]
  exact hb.setSlot h hi hold h1 h2 h4 (fun k => h3 ▸ hal k)

theorem opCtorDefault_post (hok : c.OK) (h : Mid c K s0 s) {i : Nat} {a : AllocId} (hvac : vacant s i = true)
    {Q : St → Prop} {T : Prop} :
    Out (opCtorDefault c i a s) (fun _ s' => Mid c K s0 s' ∧ allocOf s' i = some a) Q T := by
  obtain ⟨_, hi⟩ := vacant_iff.mp hvac
  refine h.setSlot (h.invs.set_nonowning hi ownsB_none ?_) (fun s' h1 h2 => ⟨h1, allocOf_set_self h2 hi⟩)
  rintro _ ⟨⟩
  exact ⟨rfl, nElems_emptyExts hok.dim⟩

/-- the constructors of the form "allocate in the mem-initialiser, construct in the body" -/
theorem ctorWith_post (h : Mid c K s0 s) {i : Nat} {a : AllocId} {es : List Ext} {construct : Bool} {rowLen : Nat} {T : Prop}
    (hvac : vacant s i = true) (hfx : c.fx6 = true) (hct : construct = false → c.trivCtor = true) :
    Out (ctorWith c i a es construct rowLen s) (fun _ s' => Mid c K s0 s' ∧ allocOf s' i = some a) (Thrown c s0) T := by
  unfold ctorWith
  refine h.install (build_out c a _ construct rowLen s hfx hct) (vacant_iff.mp hvac).2 ownsB_none ?_ (fun _ => eqv_refl c a)
  exact fun _ => ⟨rfl, rfl, rfl, (nElems_reported es).symm⟩

/-- copy constructor (`a = none`: select_on_container_copy_construction) and allocator-extended copy constructor -/
theorem opCtorCopy_post (h : Mid c K s0 s) {i j : Nat} {a : Option AllocId} {y : Arr} {T : Prop} (hvac : vacant s i = true)
    (hy : getArr s j = some y) (hfx : c.fx6 = true) :
    Out (opCtorCopy c i j a s) (fun _ s' => Mid c K s0 s' ∧ allocOf s' i = some (pickAlloc a (c.select y.alloc)))
      (Thrown c s0) T := by
  have hj := getArr_eq hy
  unfold opCtorCopy
  refine Out.withArr hy ?_
  apply Out.bind_same (readHas_out c y.n y s (h.has hj) (Nat.le_refl _))
  intro _
  refine h.install (build_out c _ y.n true 0 s hfx (by intro e; cases e)) (vacant_iff.mp hvac).2 ownsB_none ?_
    (fun _ => eqv_refl c _)
  exact fun _ => ⟨rfl, rfl, rfl, (h.invs.wn j y hj).trans (nElems_reported _).symm⟩

theorem opCtorView_post (h : Mid c K s0 s) {i j : Nat} {a : AllocId} {sl : Option (Int × Int)} {y : Arr} {T : Prop}
    (hvac : vacant s i = true) (hy : getArr s j = some y) (hsl : sliceOk y sl = true) (hfx : c.fx6 = true) :
    Out (opCtorView c i j a sl s) (fun _ s' => Mid c K s0 s' ∧ allocOf s' i = some a) (Thrown c s0) T := by
  have hj := getArr_eq hy
  unfold opCtorView
  refine Out.withArr hy ?_
  apply Out.bind_same (readHas_out c _ y s (h.has hj) (by rw [h.invs.wn j y hj]; exact nElems_viewExts_le y sl hsl))
  intro _
  exact ctorWith_post h hvac hfx (by intro e; cases e)

theorem opCtorRange_post (h : Mid c K s0 s) {i j : Nat} {a : AllocId} {y : Arr} {T : Prop}
    (hvac : vacant s i = true) (hy : getArr s j = some y) (hfx : c.fx6 = true) :
    Out (opCtorRange c i j a s) (fun _ s' => Mid c K s0 s' ∧ allocOf s' i = some a) (Thrown c s0) T := by
  unfold opCtorRange
  refine Out.withArr hy ?_
  apply Out.bind_same (readHas_out c _ y s (h.has (getArr_eq hy)) (Nat.le_refl _))
  intro _
  exact ctorWith_post h hvac hfx (by intro e; cases e)

theorem dtorArr_post (hok : c.OK) (h : Mid c K s0 s) {i : Nat} {x : Arr} (hi : s.arrs[i]? = some (some x))
    {Q : St → Prop} {T : Prop} : Out (dtorArr c i x s) (fun _ s' => Mid c K s0 s') Q T := by
  unfold dtorArr
  apply release_bind c hok.wf x s (h.has hi)
  intro s1 hr
  exact h.setSlot_at hr.1 (by rw [hr.2.1]) (h.invs.release hi hr.relB (by rintro _ ⟨⟩)) (fun _ h1 _ => h1)

theorem clearArr_post (hok : c.OK) (h : Mid c K s0 s) {i : Nat} {x : Arr} (hi : s.arrs[i]? = some (some x))
    {Q : St → Prop} {T : Prop} :
    Out (clearArr c i x s)
      (fun x' s' => x' = { x with ext := emptyExts c.dim, n := 0 } ∧ Mid c K s0 s' ∧ s'.arrs = s.arrs.set i (some x')) Q T := by
  apply (clearArr_raw c hok.wf i x s (h.has hi)).imp
  intro x' s' ⟨hx', hnf, harr, hr⟩
  refine ⟨hx', h.next ?_ hnf (by rw [harr, List.length_set]), harr⟩
  rw [harr]
  exact h.invs.release hi hr (by rintro _ ⟨⟩; rw [hx']; exact ⟨rfl, nElems_emptyExts hok.dim⟩)

theorem opReshape_post (h : Mid c K s0 s) {i : Nat} {es : List Ext} {x : Arr} (hx : getArr s i = some x)
    (hn : nElems es = x.n) {Q : St → Prop} {T : Prop} :
    Out (opReshape i es s) (fun _ s' => Mid c K s0 s' ∧ allocOf s' i = allocOf s i) Q T := by
  have hi := getArr_eq hx
  unfold opReshape
  refine Out.withArr hx ?_
  rw [if_pos hn]
  refine h.setSlot ?_ (fun s' h1 h2 => ⟨h1, by rw [allocOf_set_self h2 hi, allocOf_of_getArr hx]⟩)
  exact h.invs.relabel hi rfl rfl (hn.symm.trans (nElems_reported es).symm) (fun _ => eqv_refl c _)

theorem opSwap_post (h : Mid c K s0 s) {i j : Nat} {x y : Arr} (hx : getArr s i = some x) (hy : getArr s j = some y)
    (heq : K → c.pocs = false → c.eqv x.alloc y.alloc = true) {Q : St → Prop} {T : Prop} :
    Out (opSwap c i j s)
      (fun _ s' => Mid c K s0 s' ∧ allocOf s' i = (if c.pocs then allocOf s j else allocOf s i) ∧
        allocOf s' j = (if c.pocs then allocOf s i else allocOf s j)) Q T := by
  have hi := getArr_eq hx
  have hj := getArr_eq hy
  unfold opSwap
  refine Out.withArr2 hx hy (Out.ite (fun hij => ?_) fun hij => ?_)
  · subst hij
    exact Out.pure' ⟨h, by cases c.pocs <;> rfl, by cases c.pocs <;> rfl⟩
  · refine h.setSlot2 (h.invs.exchange hij hi hj rfl rfl rfl rfl rfl rfl (fun k => eqv_ite fun hp => eqv_symm (heq k hp))
      (fun k => eqv_ite (heq k))) ?_
    · intro s' h1 h2
      refine ⟨h1, ?_, ?_⟩
      · rw [allocOf_of_slot (h2 ▸ set2_first hij hi), allocOf_of_getArr hx, allocOf_of_getArr hy]
        cases c.pocs <;> rfl
      · rw [allocOf_set_self h2 ((List.getElem?_set_ne hij).trans hj), allocOf_of_getArr hx, allocOf_of_getArr hy]
        cases c.pocs <;> rfl

/-- element-wise assignment into (a prefix of) the block of a live array of the pool: whether it completes or an element
    assignment throws, no cell changes its status -/
theorem assignOwn_post (h : Mid c K s0 s) {i k : Nat} {x : Arr} {T : Prop} (hi : s.arrs[i]? = some (some x)) (hk : k ≤ x.n) :
    Out (assignAll c x.base (List.range k) s) (fun _ s' => Mid c K s0 s' ∧ s'.arrs = s.arrs) (Thrown c s0) T := by
  by_cases h0 : k = 0
  · subst h0
    exact Out.pure' ⟨h, rfl⟩
  · obtain ⟨b, blk, hb, hB, hf, hsz, hc⟩ := h.has hi (Nat.lt_of_lt_of_le (Nat.pos_of_ne_zero h0) hk)
    rw [hb]
    have hoff : ∀ off ∈ List.range k, off < blk.size :=
      fun off ho => hsz ▸ Nat.lt_of_lt_of_le (List.mem_range.mp ho) hk
    have hnext : ∀ {s' : St} {cs' : List Cell}, FrB s s' (withCells s.blocks b blk cs') → CellsOK c { blk with cells := cs' } →
        Invs c K s'.blocks s'.arrs := by
      intro s' cs' hfr hcs
      rw [hfr.blocks, hfr.arrs]
      exact h.invs.set_cells hB hf hcs
    apply (assignAll_out c b (List.range k) s hB hf hoff hc).mono _ _ id
    · intro _ s' ⟨cs', hfr, hcs⟩
      exact ⟨h.next (hnext hfr hcs) hfr.fuel (by rw [hfr.arrs]), hfr.arrs⟩
    · intro s' ⟨hfu, cs', hfr, hcs⟩
      exact ⟨fun e => hfu (h.nf e), by rw [hfr.arrs]; exact h.len, (hnext hfr hcs).good⟩

theorem copyInto_post (h : Mid c K s0 s) {i j k count : Nat} {x y : Arr} {T : Prop} (hi : s.arrs[i]? = some (some x))
    (hj : s.arrs[j]? = some (some y)) (hle : count ≤ y.n) (hk : k ≤ x.n) :
    Out ((readCells c y.base count >>= fun _ => assignAll c x.base (List.range k)) s)
      (fun _ s' => Mid c K s0 s' ∧ s'.arrs = s.arrs) (Thrown c s0) T :=
  Out.bind_same (readHas_out c count y s (h.has hj) hle) (fun _ => assignOwn_post h hi hk)

/-- the element-wise move out of slot `j` into storage of allocator `a` (fixes/F9.patch): seen from a state `sm` in which `j`
    has already been cleared, it is a `buildSafe` -/
theorem moveElementwise_post (hok : c.OK) (h : Mid c K s0 s) {j : Nat} {y : Arr} {a : AllocId} {T : Prop}
    (hj : s.arrs[j]? = some (some y)) :
    Out (moveElementwise c j y a s)
      (fun p s' => ∃ sm, Mid c K s0 sm ∧ sm.arrs = s.arrs.set j (some { y with ext := emptyExts c.dim, n := 0 }) ∧
        Built c a y.n sm s' p)
      (Thrown c s0) T := by
  unfold moveElementwise
  apply Out.bind_same (readHas_out c y.n y s (h.has hj) (Nat.le_refl _))
  intro _
  apply (buildSafe_out c a y.n true s (by intro e; cases e)).bind _ (fun _ => h.cleaned)
  intro p s1 hb
  apply Out.bind_ok (clearArr_raw c hok.wf j y s1 ((h.has hj).grow hb.builtB.grow))
  intro y1 s2 ⟨hy1, hnf2, harr2, hr⟩
  apply Out.pure'
  subst hy1
  obtain ⟨B1, hr0, hb1⟩ := hb.builtB.commute (h.has hj) hr
  refine ⟨{ s with blocks := B1, arrs := s.arrs.set j (some { y with ext := emptyExts c.dim, n := 0 }) }, ?_, rfl,
    fun e => hnf2 (hb.1 e), by rw [harr2, hb.2.1], hb1⟩
  exact h.next (h.invs.release hj hr0 (by rintro _ ⟨⟩; exact ⟨rfl, nElems_emptyExts hok.dim⟩)) id (List.length_set ..)

/-- move construction (plain and allocator-extended): the block changes hands; between unequal allocators the repaired code
    moves the elements into new storage -/
theorem opCtorMove_post (hok : c.OK) (h : Mid c K s0 s) {i j : Nat} {a : Option AllocId} {y : Arr} {T : Prop}
    (hvac : vacant s i = true) (hy : getArr s j = some y)
    (heq : K → c.fx9a = true ∨ c.eqv (pickAlloc a y.alloc) y.alloc = true) :
    Out (opCtorMove c i j a s) (fun _ s' => Mid c K s0 s' ∧ allocOf s' i = some (pickAlloc a y.alloc)) (Thrown c s0) T := by
  obtain ⟨_, hi⟩ := vacant_iff.mp hvac
  have hj := getArr_eq hy
  have hij : i ≠ j := by rintro rfl; rw [hi] at hj; cases hj
  unfold opCtorMove
  refine Out.withArr hy ?_
  generalize pickAlloc a y.alloc = al at heq ⊢
  refine Out.ite (fun hcond => ?_) fun hcond => ?_
  · apply (moveElementwise_post hok h hj).bind _ (fun _ e => e)
    intro p s1 ⟨sm, hm, harrm, hb⟩
    exact hb.setSlot (x' := ⟨al, p, y.ext, y.n⟩) hm (slot_other harrm (Ne.symm hij) hi) ownsB_none
      rfl rfl (h.invs.wn j y hj) (fun _ => eqv_refl c al)
  · refine h.setSlot2 (h.invs.transfer hij hi ownsB_none hj rfl rfl rfl rfl (nElems_emptyExts hok.dim) ?_) ?_
    · intro k
      apply eqv_symm
      rcases heq k with hf | he
      · rw [hf] at hcond; simpa using hcond
      · exact he
    · intro s' h1 h2
      exact ⟨h1, allocOf_of_slot (h2 ▸ set2_first hij hi)⟩

/-- the move-assignment tail `clear(); adopt p` applied to a block that `build` / `buildSafe` has just produced (the temporary
    of `operator=(array{…})`, and of the element-wise move) -/
theorem Built.adopt {ta : AllocId} {n : Nat} {s1 : St} {p : Option Nat} {i : Nat} {x : Arr} {ext : List Ext}
    (hb : Built c ta n s s1 p) (hok : c.OK) (h : Mid c K s0 s) (hi : s.arrs[i]? = some (some x)) (hext : n = nElems ext)
    (hal : K → c.eqv ta (if c.pocma then ta else x.alloc) = true) {Q : St → Prop} {T : Prop} :
    Out (noexcept (moveAssignFrom c i x ta p ext n) s1)
      (fun _ s' => Mid c K s0 s' ∧ allocOf s' i = some (if c.pocma then ta else x.alloc)) Q T := by
  apply Out.noexcept_ok
  unfold moveAssignFrom
  apply Out.bind_ok (clearArr_raw c hok.wf i x s1 ((h.has hi).grow hb.builtB.grow))
  intro x1 s2 ⟨hx1, hnf2, harr2, hr⟩
  subst hx1
  obtain ⟨B1, hr0, hb1⟩ := hb.builtB.commute (h.has hi) hr
  exact h.setSlot_at (hb.1.trans hnf2) (by rw [harr2, hb.2.1, List.set_set])
    (h.invs.replace hi hr0 (hb1.newB hr0.length rfl rfl) hext hal) (fun _ h1 h2 => ⟨h1, allocOf_set_self h2 hi⟩)

/-- move assignment: `clear()`, then the block changes hands; between unequal non-propagating allocators the repaired code
    moves the elements into new storage of the target's allocator -/
theorem opAssignMove_post (hok : c.OK) (h : Mid c K s0 s) {i j : Nat} {x y : Arr} {T : Prop} (hx : getArr s i = some x)
    (hy : getArr s j = some y) (heq : K → c.fx9a = true ∨ c.pocma = true ∨ c.eqv x.alloc y.alloc = true) :
    Out (opAssignMove c i j s) (fun _ s' => Mid c K s0 s' ∧ allocOf s' i = if c.pocma then allocOf s j else allocOf s i)
      (Thrown c s0) T := by
  have hi := getArr_eq hx
  have hj := getArr_eq hy
  unfold opAssignMove
  refine Out.withArr2 hx hy (Out.ite (fun hij => ?_) fun hij => Out.ite (fun hcond => ?_) fun hcond => ?_)
  · subst hij
    exact Out.pure' ⟨h, by cases c.pocma <;> rfl⟩
  · have hpocma : c.pocma = false := by
      simp only [Bool.and_eq_true, Bool.not_eq_true'] at hcond; exact hcond.1.2
    apply (moveElementwise_post hok h hj).bind _ (fun _ e => e)
    intro p s1 ⟨sm, hm, harrm, hb⟩
    have him := slot_other harrm (Ne.symm hij) hi
    refine (hb.adopt hok hm him (h.invs.wn j y hj) ?_).imp ?_
    · intro _; rw [hpocma]; exact eqv_refl c _
    · intro _ s' ⟨h1, h2⟩
      exact ⟨h1, by rw [h2, hpocma, allocOf_of_getArr hx]; rfl⟩
  · apply Out.noexcept_ok
    unfold moveAssignFrom
    rw [bind_assoc]
    apply Out.bind_ok (clearArr_post hok h hi)
    intro x1 s1 ⟨hx1, h1, harr1⟩
    subst hx1
    have hi1 := slot_self harr1 hi
    have hj1 := slot_other harr1 hij hj
    refine h1.setSlot2 (h1.invs.transfer hij hi1 (fun b => ownsB_empty b rfl) hj1 rfl rfl rfl rfl
      (nElems_emptyExts hok.dim) ?_) ?_
    · refine fun k => eqv_ite fun hp => eqv_symm ?_
      rcases heq k with hf | hp' | he
      · rw [hf, hp] at hcond; simpa using hcond
      · rw [hp] at hp'; cases hp'
      · exact he
    · intro s' h2 harr2
      refine ⟨h2, ?_⟩
      rw [allocOf_of_slot (harr2 ▸ set2_first hij hi1), allocOf_of_getArr hx, allocOf_of_getArr hy]
      cases c.pocma <;> rfl

theorem opViewAssign_post (h : Mid c K s0 s) {i j : Nat} {x y : Arr} {T : Prop} (hx : getArr s i = some x)
    (hy : getArr s j = some y) :
    Out (opViewAssign c i j s) (fun _ s' => Mid c K s0 s' ∧ allocOf s' i = allocOf s i) (Thrown c s0) T := by
  unfold opViewAssign
  refine Out.withArr2 hx hy ?_
  exact (copyInto_post h (getArr_eq hx) (getArr_eq hy) (Nat.le_refl _) (Nat.le_refl _)).imp
    (fun _ _ e => ⟨e.1, allocOf_congr e.2 i⟩)

theorem ite_withAlloc (p : Bool) (x : Arr) (a : AllocId) :
    (if p = true then { x with alloc := a } else x) = { x with alloc := if p then a else x.alloc } := by
  cases p <;> rfl

theorem opAssignCopy_post (hok : c.OK) (h : Mid c K s0 s) {i j : Nat} {x y : Arr} {T : Prop} (hx : getArr s i = some x)
    (hy : getArr s j = some y) (hfx7 : c.fx7 = true) (hal : K → (c.pocca && !c.iae && !c.fx9c) = false) :
    Out (opAssignCopy c i j s) (fun _ s' => Mid c K s0 s' ∧ allocOf s' i = if c.pocca then allocOf s j else allocOf s i)
      (Thrown c s0) T := by
  have hi := getArr_eq hx
  have hj := getArr_eq hy
  have hpost : ∀ {s' : St}, allocOf s' i = some (if c.pocca then y.alloc else x.alloc) →
      allocOf s' i = if c.pocca then allocOf s j else allocOf s i := by
    intro s' e
    rw [e, allocOf_of_getArr hx, allocOf_of_getArr hy]
    cases c.pocca <;> rfl
  unfold opAssignCopy
  refine Out.withArr2 hx hy ?_
  simp only [ite_withAlloc]
  refine Out.ite (fun hkeep => ?_) fun hkeep => ?_
  · obtain ⟨hsame, hkeepA⟩ : extsEq x.ext y.ext = true ∧ (c.fx9c && c.pocca && !c.eqv x.alloc y.alloc) = false := by
      simpa only [Bool.and_eq_true, Bool.not_eq_true'] using hkeep
    refine Out.ite (fun hij => ?_) fun hij => ?_
    · subst hij
      exact Out.pure' ⟨h, by cases c.pocca <;> rfl⟩
    · -- the allocator may be replaced first; then element-wise assignment
      refine h.setSlot_bind (h.invs.relabel hi rfl rfl (h.invs.wn i x hi) ?_) ?_
      · -- outside the finding class: no POCCA, or all allocators equal, or (repaired) the two allocators are equal
        intro k
        show c.eqv x.alloc (if c.pocca then y.alloc else x.alloc) = true
        cases hp : c.pocca with
        | false => exact eqv_refl c _
        | true =>
          have := hal k
          rw [hp] at this hkeepA
          cases hi' : c.iae with
          | true => exact eqv_of_iae hi' _ _
          | false =>
            rw [hi'] at this
            rw [(Bool.not_eq_false' _).mp this] at hkeepA
            exact (Bool.not_eq_false' _).mp hkeepA
      · intro s1 h1 harr1
        have hi1 := slot_self harr1 hi
        have hle : y.n ≤ x.n := by
          rw [h.invs.wn i x hi, h.invs.wn j y hj, nElems_extsEq hsame]; exact Nat.le_refl _
        exact (copyInto_post h1 hi1 (slot_other harr1 hij hj) (Nat.le_refl _) hle).imp
          (fun _ _ e => ⟨e.1, hpost (allocOf_of_slot (e.2 ▸ hi1))⟩)
  · simp only [hfx7, if_true]
    have hij : i ≠ j := by
      rintro rfl
      obtain rfl : x = y := Option.some.inj (hx.symm.trans hy)
      exact hkeep (by simp [extsEq_refl, eqv_refl])
    apply (clearArr_post hok h hi).bind _ (fun _ e => e)
    intro x1 s1 ⟨hx1, h1, harr1⟩
    subst hx1
    have hi1 := slot_self harr1 hi
    refine h1.setSlot_bind (h1.invs.set_nonowning hi1 (fun b => ownsB_empty b rfl) ?_) ?_
    · rintro _ ⟨⟩; exact ⟨rfl, nElems_emptyExts hok.dim⟩
    · intro s2 h2 harr2
      apply Out.bind_same (readHas_out c y.n y s2 (h2.has (slot_other harr2 hij (slot_other harr1 hij hj))) (Nat.le_refl _))
      intro _
      refine (h2.install (buildSafe_out c _ y.n true s2 (by intro e; cases e)) (slot_self harr2 hi1) (fun b => ownsB_empty b rfl) ?_
        (fun _ => eqv_refl c _)).imp (fun _ _ e => ⟨e.1, hpost e.2⟩)
      exact fun _ => ⟨rfl, rfl, rfl, h.invs.wn j y hj⟩

/-- the tail of `assign(extensions, value)` and `reextent(extensions) &&` to other extents in the repaired code: `clear()`,
    then `buildSafe` and adoption of the new block -/
theorem rebuild_post (hok : c.OK) (h : Mid c K s0 s) {i : Nat} {x : Arr} {es : List Ext} {construct : Bool} {T : Prop}
    (hx : getArr s i = some x) (hct : construct = false → c.trivCtor = true) :
    Out ((clearArr c i x >>= fun x1 => buildSafe c x1.alloc (nElems es) construct >>= fun p =>
        setSlot i (some { x1 with base := p, ext := reported es, n := nElems es })) s)
      (fun _ s' => Mid c K s0 s' ∧ allocOf s' i = allocOf s i) (Thrown c s0) T := by
  have hi := getArr_eq hx
  apply (clearArr_post hok h hi).bind _ (fun _ e => e)
  intro x1 s1 ⟨hx1, h1, harr1⟩
  subst hx1
  rw [allocOf_of_getArr hx]
  refine h1.install (buildSafe_out c x.alloc (nElems es) construct s1 hct)
    (slot_self harr1 hi) (fun b => ownsB_empty b rfl) ?_
    (fun _ => eqv_refl c _)
  exact fun _ => ⟨rfl, rfl, rfl, (nElems_reported es).symm⟩

theorem opAssignFill_post (hok : c.OK) (h : Mid c K s0 s) {i : Nat} {es : List Ext} {x : Arr} {T : Prop}
    (hx : getArr s i = some x) (hfx7 : c.fx7 = true) :
    Out (opAssignFill c i es s) (fun _ s' => Mid c K s0 s' ∧ allocOf s' i = allocOf s i) (Thrown c s0) T := by
  unfold opAssignFill
  refine Out.withArr hx (Out.ite (fun _ => ?_) fun _ => ?_)
  · exact (assignOwn_post h (getArr_eq hx) (Nat.le_refl _)).imp (fun _ _ e => ⟨e.1, allocOf_congr e.2 i⟩)
  · simp only [hfx7, if_true]
    exact rebuild_post hok h hx (by intro e; cases e)

theorem opReextentRv_post (hok : c.OK) (h : Mid c K s0 s) {i : Nat} {es : List Ext} {x : Arr} {T : Prop}
    (hx : getArr s i = some x) (hfx7 : c.fx7 = true) :
    Out (opReextentRv c i es s) (fun _ s' => Mid c K s0 s' ∧ allocOf s' i = allocOf s i) (Thrown c s0) T := by
  unfold opReextentRv
  refine Out.withArr hx (Out.ite (fun _ => Out.pure' ⟨h, rfl⟩) fun _ => ?_)
  rw [if_pos hfx7]
  exact rebuild_post hok h hx (by intro e; simpa using e)

/-- `operator=(array{…, allocator})`: a temporary is built, then move-assigned (its destructor finds it empty) -/
theorem assignFromTemp_post (hok : c.OK) (h : Mid c K s0 s) {i : Nat} {x : Arr} {es : List Ext} {rowLen : Nat} {T : Prop}
    (hi : s.arrs[i]? = some (some x)) (hfx : c.fx6 = true) (hal : K → (c.fx9 || c.pocma || c.iae) = true) :
    Out (assignFromTemp c i x es rowLen s) (fun _ s' => Mid c K s0 s') (Thrown c s0) T := by
  unfold assignFromTemp
  apply (build_out c _ (nElems es) true rowLen s hfx (by intro e; cases e)).bind _ (fun _ => h.cleaned)
  intro p s1 hb
  refine (hb.adopt hok h hi (nElems_reported es).symm ?_).imp (fun _ _ e => e.1)
  refine fun k => eqv_ite fun hp => ?_
  have := hal k
  rw [hp] at this
  cases hi' : c.iae with
  | true => exact eqv_of_iae hi' _ _
  | false =>
    rw [hi'] at this
    have h9 : c.fx9 = true := by simpa using this
    rw [h9]
    exact eqv_refl c _

theorem opAssignView_post (hok : c.OK) (h : Mid c K s0 s) {i j : Nat} {sl : Option (Int × Int)} {lv : Bool} {x y : Arr} {T : Prop}
    (hij : i ≠ j) (hx : getArr s i = some x) (hy : getArr s j = some y) (hsl : sliceOk y sl = true) (hfx : c.fx6 = true)
    (hal : K → (c.fx9 || c.pocma || c.iae) = true) :
    Out (opAssignView c i j sl lv s) (fun _ s' => Mid c K s0 s') (Thrown c s0) T := by
  have hi := getArr_eq hx
  have hj := getArr_eq hy
  have hle : nElems (viewExts y sl) ≤ y.n := by rw [h.invs.wn j y hj]; exact nElems_viewExts_le y sl hsl
  unfold opAssignView
  refine Out.withArr2 hx hy (Out.ite (fun _ => ?_) fun _ => Out.ite (fun hresh => ?_) fun _ => ?_)
  · exact (copyInto_post h hi hj hle (Nat.le_refl _)).imp (fun _ _ e => e.1)
  · have hxn : x.n = nElems (viewExts y sl) := by
      simp only [Bool.and_eq_true, decide_eq_true_eq] at hresh; exact hresh.2
    refine h.setSlot_bind ?_ ?_
    · exact h.invs.relabel hi rfl rfl (hxn.trans (nElems_reported _).symm) (fun _ => eqv_refl c _)
    intro s1 h1 harr1
    exact (copyInto_post h1 (x := { x with ext := reported (viewExts y sl) })
      (slot_self harr1 hi) (slot_other harr1 hij hj) hle (Nat.le_refl _)).imp (fun _ _ e => e.1)
  · apply Out.bind_same (readHas_out c _ y s (h.has hj) hle)
    intro _
    exact assignFromTemp_post hok h hi hfx hal

theorem opAssignRange_post (hok : c.OK) (h : Mid c K s0 s) {i j : Nat} {x y : Arr} {T : Prop}
    (hx : getArr s i = some x) (hy : getArr s j = some y) (hfx : c.fx6 = true)
    (hal : K → (c.fx9 || c.pocma || c.iae) = true) :
    Out (opAssignRange c i j s) (fun _ s' => Mid c K s0 s') (Thrown c s0) T := by
  have hi := getArr_eq hx
  have hj := getArr_eq hy
  unfold opAssignRange
  refine Out.withArr2 hx hy (Out.ite (fun _ => ?_) fun _ => ?_)
  · exact (copyInto_post h hi hj (Nat.le_refl _) (Nat.le_refl _)).imp (fun _ _ e => e.1)
  · apply Out.bind_same (readHas_out c _ y s (h.has hj) (Nat.le_refl _))
    intro _
    exact assignFromTemp_post hok h hi hfx hal

/-- element-wise assignment into the block `build` has returned: whether it completes or an assignment throws, the block
    stays as `build` left it but for the cells written -/
theorem BuiltB.assign_out {a : AllocId} {n : Nat} {B : List Block} {s1 : St} {p : Option Nat} {offs : List Nat} {T : Prop}
    (hb : BuiltB c a n B s1.blocks p) (hoffs : ∀ off ∈ offs, off < n) :
    Out (assignAll c p offs s1)
      (fun _ s' => NF s1 s' ∧ s'.arrs = s1.arrs ∧ BuiltB c a n B s'.blocks p)
      (fun s' => s1.fuel ≠ none ∧ s'.arrs = s1.arrs ∧ BuiltB c a n B s'.blocks p) T := by
  rcases hb with ⟨hn, rfl, hbl⟩ | ⟨nb, hn, rfl, hbl, hfr, hsz, hc, hba⟩
  · obtain rfl : offs = [] := by
      cases offs with
      | nil => rfl
      | cons o r => have := hoffs o (by simp); omega
    exact Out.pure' ⟨NF.refl _, rfl, Or.inl ⟨hn, rfl, hbl⟩⟩
  · have hnext : ∀ {s' : St} {cs' : List Cell}, FrB s1 s' (withCells s1.blocks B.length nb cs') →
        CellsOK c { nb with cells := cs' } → s'.arrs = s1.arrs ∧ BuiltB c a n B s'.blocks (some B.length) := by
      intro s' cs' h3 hcs
      exact ⟨h3.arrs, Or.inr ⟨{ nb with cells := cs' }, hn, rfl, by rw [h3.blocks, hbl]; exact withCells_last, hfr, hsz, hcs, hba⟩⟩
    apply (assignAll_out c B.length offs s1 (by rw [hbl]; exact List.getElem?_concat_length) hfr
      (by intro o ho; rw [hsz]; exact hoffs o ho) hc).mono _ _ id
    · intro _ s' ⟨cs', h3, hcs⟩
      exact ⟨h3.fuel, hnext h3 hcs⟩
    · intro s' ⟨hfu, cs', h3, hcs⟩
      exact ⟨hfu, hnext h3 hcs⟩

/-- the copy of the preserved elements into the block just built by `buildSafe` (second step of `reextent` in the repaired
    code): on an exception the new block is destroyed and returned -/
theorem copyStage_out (hok : c.OK) (x : Arr) (n : Nat) (offs : List Nat) (s s1 : St) (p : Option Nat) {T : Prop}
    (hx : HasBlock c s.blocks x) (hb : Built c x.alloc n s s1 p) (hoffs : ∀ off ∈ offs, off < n) :
    Out (tryCatch (do readCells c x.base (if offs.isEmpty then 0 else x.n); assignAll c p offs)
                 (do destroyAll c p n; deallocate c x.alloc p n; rethrow) s1)
      (fun _ s' => Built c x.alloc n s s' p)
      (fun s' => s.fuel ≠ none ∧ Cleaned c x.alloc s s') T := by
  have hx1 := hx.grow hb.builtB.grow
  obtain ⟨hnf1, harr1, hb1⟩ := hb
  apply Out.tryCatch' (Out.bind_same (readHas_out c _ x s1 hx1 (by split <;> omega)) (fun _ => hb1.assign_out hoffs))
  · intro s2 ⟨hfu, harr2, hb2⟩
    apply release_bind c hok.wf ⟨x.alloc, p, [], n⟩ s2 (hb2.has rfl rfl)
    intro s3 hr
    exact rethrow_out _ ⟨fun e => hfu (hnf1 e), by rw [hr.2.1, harr2, harr1], hb2.released (x := ⟨x.alloc, p, [], n⟩) rfl rfl rfl hr.relB⟩
  · intro _ s2 ⟨hnf2, harr2, hb2⟩
    exact ⟨hnf1.trans hnf2, harr2.trans harr1, hb2⟩

theorem opReextent_post (hok : c.OK) (h : Mid c K s0 s) {i : Nat} {es : List Ext} {fill : Bool} {x : Arr} {T : Prop}
    (hx : getArr s i = some x) (hfx8 : c.fx8 = true) :
    Out (opReextent c i es fill s) (fun _ s' => Mid c K s0 s' ∧ allocOf s' i = allocOf s i) (Thrown c s0) T := by
  have hi := getArr_eq hx
  unfold opReextent
  refine Out.withArr hx (Out.ite (fun _ => Out.pure' ⟨h, rfl⟩) fun _ => ?_)
  · simp only [hfx8, if_true]
    have hxb := h.has hi
    have hoffs : ∀ off ∈ (posIn (reported es) x.ext).filter (· < nElems es), off < nElems es := by
      intro off ho
      simpa using (List.mem_filter.mp ho).2
    apply (buildSafe_out c x.alloc (nElems es) (fill || !c.trivCtor) s
      (by intro e; simp only [Bool.or_eq_false_iff, Bool.not_eq_false'] at e; exact e.2)).bind _ (fun _ => h.cleaned)
    intro p s1 hb0
    apply (copyStage_out hok x (nElems es) _ s s1 p hxb hb0 hoffs).bind _ (fun _ => h.cleaned)
    intro _ s2 hb
    -- release the old block, adopt the new one
    show Out ((destroyAll c x.base x.n >>= fun _ => deallocate c x.alloc x.base x.n >>= fun _ =>
      setSlot i (some { x with base := p, ext := reported es, n := nElems es })) s2) _ _ _
    apply release_bind c hok.wf x s2 (hxb.grow hb.builtB.grow)
    intro s3 hr
    obtain ⟨B1, hr0, hb1⟩ := hb.builtB.commute hxb hr.relB
    refine h.setSlot_at (hb.1.trans hr.1) (by rw [hr.2.1, hb.2.1])
      (h.invs.replace hi hr0 (hb1.newB hr0.length rfl rfl) (nElems_reported es).symm (fun _ => eqv_refl c _))
      (fun _ h1 h2 => ⟨h1, ?_⟩)
    rw [allocOf_set_self h2 hi, allocOf_of_getArr hx]

/-- `static_array s(extensions, elem, alloc); static_array t(std::move(s));` and both destructors: only a failing
    allocation or element move inside the noexcept move constructor ends in std::terminate -/
theorem opSaMove_post (hok : c.OK) (h : Mid c K s0 s) {a : AllocId} {es : List Ext} (hfx6 : c.fx6 = true) :
    Out (opSaMove c a es s) (fun _ s' => Mid c K s0 s') (Thrown c s0) (s0.fuel ≠ none ∧ (Op.saMove a es).isSaMove = true) := by
  unfold opSaMove
  generalize nElems es = n
  apply (build_out c a n true 0 s hfx6 (by intro e; cases e)).bind _ (fun _ => h.cleaned)
  intro p s1 hb
  have hp := hb.builtB.has (x := ⟨a, p, [], n⟩) rfl rfl
  apply Out.bind_ok (P := fun q s3 => Built c a n s1 s3 q)
  · refine Out.noexcept' (Q := fun _ => s1.fuel ≠ none) (T := False) ?_ (fun _ e => ⟨fun e0 => e (hb.1 (h.nf e0)), rfl⟩)
      (fun e => e.elim)
    apply (allocate_out a n s1).bind _ (fun _ e => e.2)
    intro q s2 hq
    have hp2 := hp.grow (hq.imp (fun e => e.2.2.blocks) (fun e => ⟨_, e.2.2.blocks⟩))
    apply Out.bind_same (readHas_out c n ⟨a, p, [], n⟩ s2 hp2 (Nat.le_refl _))
    intro _
    exact (constructAll_new c a n 0 s1 s2 q hq).bind (fun _ _ hb => Out.pure' hb) (fun _ e => e.1)
  · intro q s3 hbq
    -- `~t`, then `~s`
    apply release_bind c hok.wf ⟨a, q, [], n⟩ s3 (hbq.builtB.has rfl rfl)
    intro s4 hr4
    have hcl4 := hbq.builtB.released (x := ⟨a, q, [], n⟩) rfl rfl rfl hr4.relB
    apply (release_out (Q := Thrown c s0) c hok.wf ⟨a, p, [], n⟩ s4 (hp.grow hcl4.grow)).imp
    intro _ s5 hr5
    have harr5 : s5.arrs = s.arrs := by rw [hr5.2.1, hr4.2.1, hbq.2.1, hb.2.1]
    refine h.next ?_ (fun e => hr5.1 (hr4.1 (hbq.1 (hb.1 e)))) (by rw [harr5])
    rw [harr5]
    have hr := hr5.relB
    rcases hcl4 with e | ⟨blk, e, hfr, hok', hby, hal⟩
    · rw [e] at hr
      exact (hb.builtB.released rfl rfl rfl hr).invs h.invs
    · rw [e] at hr
      obtain ⟨B0, hr0, e5⟩ := RelB.of_append hp hr
      rw [e5]
      exact ((hb.builtB.released rfl rfl rfl hr0).invs h.invs).append_freed hfr hok' (by rw [hby, hal]; exact eqv_refl c a)

theorem OpSpec.ok {c : Cfg} {op : Op} {s : St} (h : OpSpec c op s) (hnf : s.fuel = none) :
    ∃ s', op.run c s = .ok () s' ∧ Good c s' ∧ s'.fuel = none ∧ s'.arrs.length = s.arrs.length ∧
      (op.affectedA c = false → InvAS c s → InvAS c s') ∧ op.allocPost c s s' := by
  unfold OpSpec at h
  revert h
  cases op.run c s with
  | ok u s' => exact fun h => ⟨s', rfl, h.1, h.2.1 hnf, h.2.2⟩
  | threw s' => exact fun h => absurd hnf h.1
  | term s' => exact fun h => absurd hnf h.1
  | ub s' => exact False.elim

theorem getArr_of_match {s : St} {j : Nat} {f : Arr → Bool}
    (h : (match getArr s j with | some y => f y | none => false) = true) : ∃ y, getArr s j = some y ∧ f y = true := by
  split at h
  · rename_i y hy
    exact ⟨y, hy, h⟩
  · cases h

theorem getArr2_of_match {s : St} {i j : Nat} {f : Arr → Arr → Bool}
    (h : (match getArr s i, getArr s j with | some x, some y => f x y | _, _ => false) = true) :
    ∃ x y, getArr s i = some x ∧ getArr s j = some y ∧ f x y = true := by
  split at h
  · rename_i x y hx hy
    exact ⟨x, y, hx, hy, h⟩
  · cases h

/-- every operation whose repair is in the code, run from a good state in which it is applicable, with or without an
    armed fault, meets its specification -/
theorem run_spec (c : Cfg) (hok : c.OK) (op : Op) (s : St) (hG : Good c s) (happ : op.applicable c s = true)
    (hfx : op.fixedIn c = true) : OpSpec c op s := by
  apply OpSpec.intro
  have h := Mid.refl (K := op.affectedA c = false ∧ InvAS c s) hG (fun k => k.2)
  cases op with
  | ctorDefault i a => exact opCtorDefault_post hok h happ
  | ctorExt i a es => exact ctorWith_post h happ hfx (by intro e; simpa using e)
  | ctorFill i a es => exact ctorWith_post h happ hfx (by intro e; cases e)
  | ctorCopy i j =>
    obtain ⟨hvac, y, hy⟩ := and_alive happ
    refine (opCtorCopy_post (a := none) h hvac hy hfx).imp (fun _ s' e => ⟨e.1, ?_⟩)
    show allocOf s' i = (allocOf s j).map c.select
    rw [e.2, allocOf_of_getArr hy]; rfl
  | ctorCopyA i j a =>
    obtain ⟨hvac, y, hy⟩ := and_alive happ
    exact opCtorCopy_post h hvac hy hfx
  | ctorView i j a sl =>
    have happ := Bool.and_eq_true_iff.mp happ
    obtain ⟨y, hy, hsl⟩ := getArr_of_match happ.2
    exact opCtorView_post h happ.1 hy hsl hfx
  | ctorRange i j a =>
    obtain ⟨hvac, y, hy⟩ := and_alive happ
    exact opCtorRange_post h hvac hy hfx
  | ctorMove i j =>
    obtain ⟨hvac, y, hy⟩ := and_alive happ
    refine (opCtorMove_post (a := none) hok h hvac hy (fun _ => Or.inr (eqv_refl c _))).imp (fun _ s' e => ⟨e.1, ?_⟩)
    show allocOf s' i = allocOf s j
    rw [e.2, allocOf_of_getArr hy]; rfl
  | ctorMoveA i j a =>
    obtain ⟨hvac, y, hy⟩ := and_alive happ
    refine opCtorMove_post hok h hvac hy (fun k => ?_)
    rcases Bool.or_eq_true_iff.mp ((Bool.not_eq_false' _).mp k.1) with hiae | hf
    · exact Or.inr (eqv_of_iae hiae _ _)
    · exact Or.inl hf
  | dtor i =>
    obtain ⟨x, hx⟩ := alive_iff.mp happ
    refine Out.withArr hx ?_
    exact (dtorArr_post hok h (getArr_eq hx)).imp (fun _ _ e => ⟨e, trivial⟩)
  | clear i =>
    obtain ⟨x, hx⟩ := alive_iff.mp happ
    refine Out.withArr hx ?_
    apply Out.noexcept_ok
    apply Out.bind_ok (clearArr_post hok h (getArr_eq hx))
    intro x' s' ⟨hx', h1, h2⟩
    refine Out.pure' ⟨h1, ?_⟩
    show allocOf s' i = allocOf s i
    rw [allocOf_set_self h2 (getArr_eq hx), allocOf_of_getArr hx, hx']
  | assignCopy i j =>
    obtain ⟨hali, y, hy⟩ := and_alive happ
    obtain ⟨x, hx⟩ := alive_iff.mp hali
    exact opAssignCopy_post hok h hx hy hfx (fun k => k.1)
  | assignMove i j =>
    obtain ⟨hali, y, hy⟩ := and_alive happ
    obtain ⟨x, hx⟩ := alive_iff.mp hali
    refine opAssignMove_post hok h hx hy (fun k => ?_)
    have haff : (c.pocma || c.iae || c.fx9a) = true := (Bool.not_eq_false' _).mp k.1
    simp only [Bool.or_eq_true] at haff
    rcases haff with (hp | hiae) | hf
    · exact Or.inr (Or.inl hp)
    · exact Or.inr (Or.inr (eqv_of_iae hiae _ _))
    · exact Or.inl hf
  | swap i j =>
    obtain ⟨x, y, hx, hy, hxy⟩ := getArr2_of_match happ
    exact opSwap_post h hx hy (fun _ hp => by rw [hp] at hxy; exact hxy)
  | reextent i es =>
    obtain ⟨x, hx⟩ := alive_iff.mp happ
    exact opReextent_post hok h hx hfx
  | reextentFill i es =>
    obtain ⟨x, hx⟩ := alive_iff.mp happ
    exact opReextent_post hok h hx hfx
  | reextentRv i es =>
    obtain ⟨x, hx⟩ := alive_iff.mp happ
    exact opReextentRv_post hok h hx hfx
  | reshape i es =>
    obtain ⟨x, hx, hn⟩ := getArr_of_match happ
    exact opReshape_post h hx (beq_iff_eq.mp hn)
  | assignFill i es =>
    obtain ⟨x, hx⟩ := alive_iff.mp happ
    exact opAssignFill_post hok h hx hfx
  | assignView i j sl lv =>
    obtain ⟨happ, hsl⟩ := Bool.and_eq_true_iff.mp happ
    obtain ⟨hij, x, hx⟩ := and_alive happ
    obtain ⟨y, hy, hsl⟩ := getArr_of_match hsl
    exact (opAssignView_post hok h (bne_iff_ne.mp hij) hx hy hsl hfx (fun k => (Bool.not_eq_false' _).mp k.1)).imp
      (fun _ _ e => ⟨e, trivial⟩)
  | assignRange i j =>
    obtain ⟨happ, y, hy⟩ := and_alive happ
    obtain ⟨_, x, hx⟩ := and_alive happ
    exact (opAssignRange_post hok h hx hy hfx (fun k => (Bool.not_eq_false' _).mp k.1)).imp (fun _ _ e => ⟨e, trivial⟩)
  | viewAssign i j =>
    obtain ⟨x, y, hx, hy, _⟩ := getArr2_of_match (Bool.and_eq_true_iff.mp happ).2
    exact opViewAssign_post h hx hy
  | saMove a es => exact (opSaMove_post hok h hfx).imp (fun _ _ e => ⟨e, trivial⟩)

/-- every repair is in the code (the tree after fixes/F6, F7, F8) -/
def Cfg.Fixed (c : Cfg) : Prop := c.fx6 = true ∧ c.fx7 = true ∧ c.fx8 = true

theorem fixedIn_of_fixed {c : Cfg} (h : c.Fixed) (op : Op) : op.fixedIn c = true := by
  obtain ⟨h6, h7, h8⟩ := h
  cases op <;> first | exact h6 | exact h7 | exact h8 | rfl

/-- one operation of a history: operations the caller may not perform in the current state are skipped (the harness does
    the same); an exception reaches the caller and the history goes on; std::terminate and undefined behaviour end it -/
def stepSt (c : Cfg) (s : St) (op : Op) : Option St :=
  if op.applicable c s = true then
    match op.run c s with
    | .ok _ s' => some s'
    | .threw s' => some s'
    | .term _ => none
    | .ub _ => none
  else some s

def runHist (c : Cfg) : List Op → St → Option St
  | [], s => some s
  | op :: ops, s =>
    match stepSt c s op with
    | some s' => runHist c ops s'
    | none => none

/-- a property of states that every operation of a history re-establishes — on normal return and when an exception reaches
    the caller — holds at the end of the history, and the history runs to its end -/
theorem runHist_invariant {c : Cfg} {P : St → Prop} {ops : List Op}
    (hstep : ∀ op ∈ ops, ∀ s, P s → op.applicable c s = true → Out (op.run c s) (fun _ => P) P False) :
    ∀ s, P s → ∃ s', runHist c ops s = some s' ∧ P s' := by
  induction ops with
  | nil => exact fun s h => ⟨s, rfl, h⟩
  | cons op ops ih =>
    intro s hP
    have ih' := ih (fun o ho => hstep o (List.mem_cons_of_mem _ ho))
    unfold runHist stepSt
    by_cases happ : op.applicable c s = true
    · have h := hstep op List.mem_cons_self s hP happ
      simp only [happ, if_true]
      revert h
      cases op.run c s with
      | ok u s1 => exact ih' s1
      | threw s1 => exact ih' s1
      | term s1 => exact False.elim
      | ub s1 => exact False.elim
    · simp only [happ, Bool.false_eq_true, if_false]
      exact ih' s hP

/-- the empty pool of `p` slots over the empty heap -/
def initSt (p : Nat) (fuel : Option Nat := none) : St := { arrs := List.replicate p none, fuel := fuel }

theorem good_init (c : Cfg) (p : Nat) (fuel : Option Nat) : Good c (initSt p fuel) :=
  ⟨Inv.init c p, fun _ _ hi => absurd hi replicate_none⟩

end Ledger
end Multi
