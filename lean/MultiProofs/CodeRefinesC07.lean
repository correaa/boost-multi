/-
  C07 stated directly about the regenerated comparison code (see CodeRefines.lean)
-/
import MultiProofs.C07
import MultiProofs.GenTieStore

namespace Multi.CodeRefines
open Multi Multi.Gen

variable {α : Type}

/-- **C07 on the regenerated `operator==` of views** (D > 1 member/friend): true exactly for equal extents and equal elements -/
theorem code_eq_iff [DecidableEq α] (b : Int) (d : Dim) (sub : Layout) (o : View) (m : Mem α)
    (ha : Layout.WF (d :: sub)) (hb : o.lay.WF) (hlen : (d :: sub).length = o.lay.length) :
    ∃ r, V_eq ⟨b, d :: sub⟩ o m = some r ∧
      (r = true ↔ (Exts.eqv (View.mk b (d :: sub)).exts o.exts = true ∧
        ∀ idx, InBox (View.mk b (d :: sub)).exts idx → m ((View.mk b (d :: sub)).addr idx) = m (o.addr idx))) := by
  rw [GenTieStore.V_eq_tie]
  exact C07.eq_iff _ o m ha hb (List.cons_ne_nil d sub) hlen

end Multi.CodeRefines
