/-
  C20 — Debug contracts: assertions silent on valid use, fire on out-of-range access.

  The assertion sites of the headers are regenerated into `MultiModel/Gen/Asserts.lean` on every run
  (tools/gen_asserts.py) and each site is classified by the model predicate that transcribes it.
  `asserts_silent_*`: for in-domain arguments (the `InDomain` predicates of C01/C02) the predicate is true.
  `asserts_fire_*`: outside the extension / for different extents the predicate is false — and in the code the
  assertion is the first statement, before the address computation.
  NDEBUG-invariance: in the model assertion predicates are separate pure functions (`indexAssert`, `slicedAsserts`,
  …) that no result depends on; on the C++ side the translator checks that no assertion expression contains an
  assignment, increment or decrement, and the correspondence run compares the three build configurations.

  Classes without a model predicate (reinterpretSizes, scalePrecondition → C12; zeroDimCount, nullBaseOffset,
  defaultEmpty, unreachable, postIncrementOrder, elementsIndexBound) are covered by the three-configuration
  differential run only.
-/
import MultiProofs.C02
import MultiModel.Gen.Asserts

namespace Multi
namespace C20
open Gen

/-- every assertion site of the current source is classified and its expression is side-effect free -/
theorem inventory_classified_and_pure :
    assertSites.all (fun s => s.cls != AssertClass.unmapped && s.pure) = true := by decide +kernel

theorem asserts_silent_index (v : View) (i : Int) (hd : (Op.index i).InDomain v) : v.indexAssert i = true := by
  obtain ⟨hne, h1, h2⟩ := hd
  obtain ⟨d, sub, hv⟩ := List.exists_cons_of_ne_nil hne
  rw [View.ext_cons hv] at h1 h2
  simp only [View.indexAssert, hv, Ext.contains, h1, h2, decide_true, Bool.and_self, Bool.or_true]

theorem asserts_fire_index (v : View) (d : Dim) (sub : Layout) (i : Int) (hv : v.lay = d :: sub)
    (hs : d.stride ≠ 0) (hout : ¬ (d.ext.first ≤ i ∧ i < d.ext.last)) : v.indexAssert i = false := by
  simp only [View.indexAssert, hv, Ext.contains, Bool.or_eq_false_iff, beq_eq_false_iff_ne, ne_eq, Bool.and_eq_false_iff,
    decide_eq_false_iff_not]
  refine ⟨hs, ?_⟩
  by_cases h : i < d.ext.last
  · right; intro h2; exact hout ⟨h2, h⟩
  · left; exact h

theorem asserts_silent_sliced (v : View) (a b : Int) (hwf : v.lay.WF) (hd : (Op.sliced a b).InDomain v) :
    v.slicedAsserts a b = true := by
  obtain ⟨hne, h1, h2, h3⟩ := hd
  obtain ⟨d, sub, hv⟩ := List.exists_cons_of_ne_nil hne
  rw [View.ext_cons hv] at h1 h3
  cases sub with
  | nil => rw [View.slicedAsserts, hv]
  | cons d1 sub' =>
    simp only [View.slicedAsserts, hv, Ext.contains, Bool.and_eq_true, Bool.or_eq_true, beq_iff_eq, decide_eq_true_eq]
    by_cases hab : a = b
    · exact ⟨Or.inl hab, Or.inl hab⟩
    · exact ⟨Or.inr ⟨by omega, h1⟩, Or.inr ⟨by omega, by omega⟩⟩

theorem asserts_silent_take_drop (v : View) (n : Int) (hwf : v.lay.WF) (hd : (Op.taked n).InDomain v) : n ≤ v.size := by
  obtain ⟨_, _, h⟩ := hd
  rw [← (C01.shape_functions_agree v hwf).2.2.1] at h; exact h

theorem asserts_silent_partitioned (v : View) (n : Int) (hwf : v.lay.WF) (hd : (Op.partitioned n).InDomain v) :
    v.partitionedAsserts n = true := by
  obtain ⟨hne, hn, ⟨q, hq⟩⟩ := hd
  obtain ⟨d, sub, hv⟩ := List.exists_cons_of_ne_nil hne
  rw [View.ext_cons hv] at hq
  rw [hv] at hwf
  simp only [View.partitionedAsserts, hv, Bool.and_eq_true, bne_iff_ne, ne_eq, beq_iff_eq]
  refine ⟨Int.ne_of_gt hn, ?_⟩
  rcases hwf.head.cases with h0 | ⟨f, N, _, _, _, hnn, he, _⟩
  · rw [h0, Int.zero_tmod]
  · rw [he] at hq
    simp only [Ext.size] at hq
    have hN : N = n * q := by omega
    rw [hnn, hN, Int.mul_assoc]
    exact Int.mul_tmod_right _ _

theorem asserts_silent_extension (d : Dim) (h : d.WF) : d.extAsserts = true := by
  rcases h.cases with h0 | ⟨f, n, hn, hs, hf, hnn, _, _⟩
  · rw [Dim.extAsserts, h0]; rfl
  · simp only [Dim.extAsserts, Bool.or_eq_true, beq_iff_eq, Bool.and_eq_true]
    right
    rw [hf, hnn]
    exact ⟨Int.mul_tmod_left _ _, Int.mul_tmod_left _ _⟩

/-- `assert(this->stride() != 0)` in array.hpp: an array built from extensions has positive strides -/
theorem asserts_silent_stride_nonzero (es : List Ext) (hes : ∀ e ∈ es, e.first ≤ e.last) :
    ∀ d ∈ Layout.ofExts es, 0 < d.stride := by
  induction es with
  | nil => intro d hd; cases hd
  | cons e es ih =>
    have hes' : ∀ x ∈ es, x.first ≤ x.last := fun x hx => hes x (List.mem_cons_of_mem _ hx)
    intro d hd
    rcases List.mem_cons.mp hd with rfl | h
    · have h0 := nElems_nonneg hes'
      simp only [ofExts_numElements hes']
      split <;> omega
    · exact ih hes' d h

theorem eqv_sizes {a b : List Ext} (h : Exts.eqv a b = true) : a.map Ext.size = b.map Ext.size := by
  induction a generalizing b with
  | nil => cases b with
    | nil => rfl
    | cons y b => cases h
  | cons x a ih =>
    cases b with
    | nil => cases h
    | cons y b =>
      obtain ⟨h1, h2⟩ := Bool.and_eq_true_iff.mp h
      rw [List.map_cons, List.map_cons, ih h2]
      rcases (Ext.eqv_iff x y).mp h1 with ⟨hx, hy⟩ | rfl
      · rw [hx, hy]
      · rfl

/-- equal extents (the assignment precondition) imply the element-count assertion of the element range -/
theorem asserts_silent_equal_count (a b : View) (h : View.assignAssert a b = true) : nElems a.exts = nElems b.exts := by
  rw [← prodSizes_sizes, ← prodSizes_sizes, eqv_sizes h]

/-- assigning between views of different extents: the asserted predicate is false -/
theorem asserts_fire_assign (a b : View) (h : Exts.eqv a.exts b.exts = false) : View.assignAssert a b = false := h

/-- iterators of one view at in-range positions satisfy the assertions of `-`, `==`, `<` -/
theorem asserts_silent_iter (v : View) (d : Dim) (sub : Layout) (p q : Int) (hv : v.lay = d :: sub) (hs : d.stride ≠ 0) :
    ArrIt.diffAsserts (v.begin'.add p) (v.begin'.add q) = true ∧ ArrIt.eqAsserts (v.begin'.add p) (v.begin'.add q) = true := by
  simp only [ArrIt.diffAsserts, ArrIt.eqAsserts, View.begin', hv, ArrIt.add, Bool.and_eq_true, beq_iff_eq, bne_iff_ne, ne_eq]
  refine ⟨⟨⟨trivial, hs⟩, ?_⟩, trivial, trivial⟩
  have : v.base + d.stride * p - (v.base + d.stride * q) = d.stride * (p - q) := by rw [Int.mul_sub]; omega
  rw [this]; exact Int.mul_tmod_right _ _

/-- `assert(sub_num_elements != 0)` in `from_linear`: never reached with a zero divisor from a non-empty elements range -/
theorem asserts_silent_from_linear (v : View) (hv : C02.NonEmpty v) (k : Int) (h0 : 0 ≤ k) (h1 : k ≤ prodSizes (Layout.sizes v.lay)) :
    ((ElemRange.ofView v).mkIt k).isSome = true := by
  obtain ⟨it, e, _, _⟩ := C02.elemit_mk v hv k h0 h1
  rw [e]; rfl

end C20
end Multi
