/-
  MultiProofs.OwnViewAssign — assignment from a view of any layout (`A = view` in both overloads), as coded, yields the view's
  value: its extensions (collapsed) and the elements it designates, in canonical order; assignment from an array of another
  element type yields the source's value.  For a view given as a chain of C01 operations on an array of the pool that value is
  `viewVal` (`view_of_array`).  Helper lemmas for C04.
-/
import MultiProofs.OwnReext

namespace Multi
namespace Own
open C02
variable {α : Type}

theorem Valid.view_isEmpty {h : Heap α} {a : Arr} (hv : Valid h a) (hD : a.dim ≠ 0) (hn : a.numElements = 0) : a.view.isEmpty = true := by
  have hne : a.view.lay ≠ [] := fun e => hD (congrArg List.length e)
  have hag := C01.shape_functions_agree a.view hv.view_wf
  apply (hag.2.2.2 hne).mpr
  rw [← hag.2.2.1]
  -- the leading size of an array without elements is 0
  obtain ⟨es, hes, hlay, -, hne⟩ := hv.of_exts
  have hnum : nElems es = 0 := hne.symm.trans hn
  cases es with
  | nil => simp [nElems] at hnum
  | cons e es =>
    simp only [View.size, Arr.view, hlay, Layout.ofExts, Dim.size]
    simp only [nElems] at hnum
    rw [ofExts_numElements hes.tail, hnum]; simp

/-- **element-wise assignment from a view with the array's own extensions** (`static_::operator=`, `operator()() = view`):
    the array keeps block and extensions and holds the elements the view designates, in canonical order -/
theorem assignInPlace_outcome {h : Heap α} {self : Arr} (hv : Valid h self) (hD : self.dim ≠ 0) (sb : Option BlockId) (scs : List (Cell α))
    (v : View) (hwf : v.lay.WF) (hex : self.exts = v.exts)
    (hsrc : nElems v.exts ≠ 0 → ∃ s, sb = some s ∧ Live h s scs) (hsep : nElems v.exts ≠ 0 → self.numElements ≠ 0 → self.base ≠ sb)
    (hin : ∀ idx ∈ boxIndices v.exts, 0 ≤ v.addr idx ∧ (v.addr idx).toNat < scs.length) :
    Outcome h (assignElems h sb v self.base self.view) (ownBlock self) self ⟨self.exts, viewCells scs v⟩ := by
  have hnv : v.numElements = nElems v.exts := (C01.shape_functions_agree v hwf).2.1
  have hne' : self.numElements = nElems v.exts := by rw [← hv.nElems_exts, hex]
  have hok : ExtsOK v.exts := hwf.exts_le
  unfold assignElems
  have hc1 : Exts.eqv self.view.exts v.exts = true := by show Exts.eqv self.exts v.exts = true; rw [hex]; exact Exts.eqv_refl _
  have hc2 : (self.view.numElements == v.numElements) = true := by show (self.numElements == _) = true; rw [hnv, hne']; simp
  simp only [hc1, hc2, Heap.check, if_true]
  by_cases h0 : self.numElements = 0
  · -- no elements: nothing is copied
    unfold copyElems
    rw [hv.view_isEmpty hD h0, if_pos rfl, viewCells_nil scs hok (hne' ▸ h0), ← cellsOf_zero (h := h) h0]
    exact Outcome.same hv
  · have hn : nElems v.exts ≠ 0 := hne' ▸ h0
    obtain ⟨s, rfl, hs⟩ := hsrc hn
    have hvne : v.exts ≠ [] := fun e => hD (by rw [← exts_length, hex, e]; rfl)
    rw [copyElems_eq h _ _ v self.view (nonEmpty_of hwf hvne (pos_of_nElems_ne_zero _ hok hn))
      (nonEmpty_of hv.view_wf (by show self.exts ≠ []; rw [hex]; exact hvne)
        (by show ∀ e ∈ self.exts, _; rw [hex]; exact pos_of_nElems_ne_zero _ hok hn))
      (boxIndices v.exts) v.addr self.view.addr rfl (by show (boxIndices self.exts).map _ = _; rw [hex])]
    have := (Outcome.same hv).scatter h0 hs (hsep hn h0) (boxIndices v.exts) (boxIndices_nodup _)
      (fun J hJ => by rw [hex]; exact (mem_boxIndices _ _).mp hJ) v.addr hin (fun _ => True)
      (fun idx hidx => ⟨fun _ => trivial, fun _ => (mem_boxIndices _ _).mpr (hex ▸ hidx)⟩)
    simp only [if_true] at this
    rw [show viewCells scs v = (boxIndices self.exts).map fun idx => scs[(v.addr idx).toNat]?.getD none by rw [hex]; rfl]
    exact this

theorem viewCtor_lay (h : Heap α) (sb : Option BlockId) (v : View) : (viewCtor h sb v).2.lay = Layout.ofExts v.exts := by
  unfold viewCtor
  simp only
  split <;> rfl

/-- move-assign a freshly built temporary and destroy the (emptied) temporary: the temporary's value, only the own block released -/
theorem viaTemp_outcome {h h1 : Heap α} {self tmp : Arr} {val : AbsArr α} (hv : Valid h self)
    (ho : Outcome h h1 (fun _ => False) tmp val) (hdim : tmp.dim ≠ 0) :
    Outcome h (dtor (moveAssign h1 self tmp).1 (moveAssign h1 self tmp).2.2) (ownBlock self) (moveAssign h1 self tmp).2.1 val := by
  have hd : dtor (moveAssign h1 self tmp).1 (moveAssign h1 self tmp).2.2 = deallocate h1 self :=
    deallocate_empty _ _ hdim
  rw [hd]
  exact outcome_then_dealloc hv ho

/-- **`A = view`, `array::operator=(const_subarray const&)`** over any prior state of `A` -/
theorem viewAssign_outcome {h : Heap α} {self : Arr} (hv : Valid h self) (hD : self.dim ≠ 0) (sb : Option BlockId) (scs : List (Cell α))
    (v : View) (hwf : v.lay.WF) (hne : v.lay ≠ [])
    (hsrc : nElems v.exts ≠ 0 → ∃ s, sb = some s ∧ Live h s scs) (hsep : nElems v.exts ≠ 0 → self.numElements ≠ 0 → self.base ≠ sb)
    (hin : ∀ idx ∈ boxIndices v.exts, 0 ≤ v.addr idx ∧ (v.addr idx).toNat < scs.length) :
    Outcome h (viewAssign h self sb v).1 (ownBlock self) (viewAssign h self sb v).2 ⟨collapse v.exts, viewCells scs v⟩ := by
  unfold viewAssign
  by_cases he : Exts.eqv self.exts v.exts = true
  · simp only [he, if_true]
    have hex : self.exts = v.exts := Exts.eq_of_eqv he hv.exts_normal hwf.exts_norm
    have hc : collapse v.exts = self.exts := by rw [← hex]; exact hv.exts_fix
    rw [hc]
    exact assignInPlace_outcome hv hD sb scs v hwf hex hsrc hsep hin
  · simp only [he, Bool.false_eq_true, if_false]
    refine viaTemp_outcome hv (viewCtor_outcome h sb scs v hwf hsrc hin) ?_
    show (viewCtor h sb v).2.lay.length ≠ 0
    rw [viewCtor_lay, ofExts_length]
    exact fun e => hne (List.map_eq_nil_iff.mp (List.eq_nil_of_length_eq_zero e))

/-- **`A = view`, `array::operator=(Range&&)`** (what a `subarray` argument selects), with its reshape shortcut -/
theorem rangeAssign_outcome {h : Heap α} {self : Arr} (hv : Valid h self) (hD : self.dim ≠ 0) (sb : Option BlockId) (scs : List (Cell α))
    (v : View) (hwf : v.lay.WF) (hne : v.lay ≠ []) (hdim : v.exts.length = self.dim)
    (hsrc : nElems v.exts ≠ 0 → ∃ s, sb = some s ∧ Live h s scs) (hsep : nElems v.exts ≠ 0 → self.numElements ≠ 0 → self.base ≠ sb)
    (hin : ∀ idx ∈ boxIndices v.exts, 0 ≤ v.addr idx ∧ (v.addr idx).toNat < scs.length) :
    Outcome h (rangeAssign h self sb v).1 (ownBlock self) (rangeAssign h self sb v).2 ⟨collapse v.exts, viewCells scs v⟩ := by
  have hva := viewAssign_outcome hv hD sb scs v hwf hne hsrc hsep hin
  unfold rangeAssign
  unfold viewAssign at hva
  have hok : ExtsOK v.exts := hwf.exts_le
  by_cases he : Exts.eqv self.exts v.exts = true
  · rw [if_pos he] at hva ⊢; exact hva
  · rw [if_neg he] at hva ⊢
    by_cases hcnt : self.numElements = Exts.numElements v.exts
    · -- the reshape shortcut: the same block under the layout of the view's extensions, then (if there are elements) in place
      have hcnt' : nElems v.exts = self.numElements := by rw [hcnt, exts_numElements_eq]
      have ho := (Outcome.same hv).relayout hok hcnt'
      have hn' : (⟨self.base, Layout.ofExts v.exts⟩ : Arr).numElements = self.numElements := (ofExts_numElements hok).trans hcnt'
      rw [if_pos hcnt]
      simp only [reshape_eq h hok hcnt', hn']
      by_cases hz : self.numElements = 0
      · rw [if_pos hz, viewCells_nil scs hok (hcnt'.trans hz), ← cellsOf_zero (h := h) hz]
        exact ho
      · rw [if_neg hz]
        have hnv : nElems v.exts ≠ 0 := hcnt' ▸ hz
        have hex' : (⟨self.base, Layout.ofExts v.exts⟩ : Arr).exts = collapse v.exts := ofExts_exts hok
        have := assignInPlace_outcome ho.valid (by show (Layout.ofExts v.exts).length ≠ 0; rw [ofExts_length, hdim]; exact hD)
          sb scs v hwf (hex'.trans (collapse_of_ne_zero _ hnv)) hsrc (fun hn hna => hsep hn (hn' ▸ hna)) hin
        rw [hex'] at this
        exact this.mono (fun b hb => ⟨hn' ▸ hb.1, hb.2⟩)
    · rw [if_neg hcnt]; exact hva

/-- **assignment from an array of another element type** (`operator=(multi::array<TT, D> const&)`), all three branches: same extensions
    (copy in place), same element count (reshape, then copy in place), otherwise (convert into a temporary, move-assign) -/
theorem convAssign_outcome {h : Heap α} {self other : Arr} (hvs : Valid h self) (hvo : Valid h other) (hD : self.dim ≠ 0)
    (hdim : other.dim = self.dim)
    (hsep : self.numElements ≠ 0 → other.numElements ≠ 0 → self.base ≠ other.base) :
    Outcome h (convAssign h self other).1 (ownBlock self) (convAssign h self other).2 (absArr h other) := by
  unfold convAssign
  by_cases he : Exts.eqv self.exts other.exts = true
  · simp only [he, if_true]
    exact copy_inplace hvs hvo (Exts.eq_of_eqv he hvs.exts_normal hvo.exts_normal) hsep
  · simp only [he, Bool.false_eq_true, if_false]
    by_cases hc : self.numElements = Exts.numElements other.exts
    · have hc' : nElems other.exts = self.numElements := by rw [hc, exts_numElements_eq]
      have ho := (Outcome.same hvs).relayout hvo.exts_ok hc'
      have hn' : (⟨self.base, Layout.ofExts other.exts⟩ : Arr).numElements = self.numElements :=
        (ofExts_numElements hvo.exts_ok).trans hc'
      simp only [hc, if_true, reshape_eq h hvo.exts_ok hc']
      exact (copy_inplace ho.valid hvo hvo.rebuild.1 (fun hna hnb => hsep (hn' ▸ hna) hnb)).mono (fun b hb => ⟨hn' ▸ hb.1, hb.2⟩)
    · simp only [hc, if_false]
      exact viaTemp_outcome hvs (copyCtor_outcome h hvo) (by
        show (Layout.ofExts other.exts).length ≠ 0; rw [ofExts_length, exts_length, hdim]; exact hD)

def applyOps (v : View) (ops : List Op) : View := ops.foldl (fun v op => op.apply v) v

/-- every operation of the chain is in its domain when it is applied -/
def OpsInDom : View → List Op → Prop
  | _, [] => True
  | v, op :: ops => op.InDomain v ∧ OpsInDom (op.apply v) ops

/-- the documented shape and index map of the chain (composition of the operations' documented maps) -/
def denOf (den : Den) (ops : List Op) : Den :=
  ops.foldl (fun den op => ⟨op.specShape den.shape, den.map ∘ op.specMap den.shape⟩) den

theorem reach_ops (root : View) : ∀ (ops : List Op) (v : View) (den : Den), Reach root v den → OpsInDom v ops →
    Reach root (applyOps v ops) (denOf den ops) := by
  intro ops
  induction ops with
  | nil => intro v den h _; exact h
  | cons op ops ih =>
    intro v den h hd
    exact ih (op.apply v) _ (Reach.step op h hd.1) hd.2

/-- **the documented value of a view of an array**: extensions = the composed shape (collapsed, as an array built from it reports
    them), elements = the array's elements at the composed index map, in canonical order -/
def viewVal (x : AbsArr α) (ops : List Op) : AbsArr α :=
  ⟨collapse (denOf ⟨x.exts, id⟩ ops).shape,
   (boxIndices (denOf ⟨x.exts, id⟩ ops).shape).map fun idx => x.elems[(rowMajor x.exts ((denOf ⟨x.exts, id⟩ ops).map idx)).toNat]?.getD none⟩

/-- what C01 gives for a view of a valid array: well formed, the documented shape, every element inside the array's block (which is
    live if the view has elements), and the cells it designates are the documented ones -/
theorem view_of_array {h : Heap α} {b : Arr} (hv : Valid h b) (ops : List Op) (hd : OpsInDom b.view ops) :
    (applyOps b.view ops).lay.WF ∧
    (∀ idx ∈ boxIndices (applyOps b.view ops).exts,
      0 ≤ (applyOps b.view ops).addr idx ∧ ((applyOps b.view ops).addr idx).toNat < (cellsOf h b).length) ∧
    (nElems (applyOps b.view ops).exts ≠ 0 → b.numElements ≠ 0 ∧ ∃ s, b.base = some s ∧ Live h s (cellsOf h b)) ∧
    (⟨collapse (applyOps b.view ops).exts, viewCells (cellsOf h b) (applyOps b.view ops)⟩ : AbsArr α) = viewVal (absArr h b) ops := by
  have hreach := reach_ops b.view ops b.view ⟨b.view.exts, id⟩ Reach.root hd
  obtain ⟨rwf, rex, raddr⟩ := C01.reachable_denotes b.view _ _ hv.view_wf hreach
  have hden : (⟨b.view.exts, id⟩ : Den) = ⟨(absArr h b).exts, id⟩ := rfl
  -- every element of the view is an element of the array
  have haddr : ∀ idx, InBox (applyOps b.view ops).exts idx →
      (applyOps b.view ops).addr idx = b.view.addr ((denOf ⟨b.view.exts, id⟩ ops).map idx) ∧
      InBox b.exts ((denOf ⟨b.view.exts, id⟩ ops).map idx) := fun idx hidx => raddr idx (rex ▸ hidx)
  have hok : ExtsOK (applyOps b.view ops).exts := rwf.exts_le
  refine ⟨rwf, ?_, ?_, ?_⟩
  · intro idx hidx
    obtain ⟨e1, e2⟩ := haddr idx ((mem_boxIndices _ _).mp hidx)
    rw [e1]; exact hv.addr_pos e2
  · intro hn
    have hJ := inBox_firsts_of_pos _ hok (by have := nElems_nonneg hok; omega)
    have hnb : b.numElements ≠ 0 := hv.nElems_exts ▸ nElems_ne_zero_of_inBox _ _ (haddr _ hJ).2
    obtain ⟨s, hs, hl, _⟩ := hv.block hnb
    exact ⟨hnb, s, hs, hl⟩
  · unfold viewVal viewCells
    rw [← hden, ← rex]
    congr 1
    apply List.map_congr_left
    intro idx hidx
    obtain ⟨e1, e2⟩ := haddr idx ((mem_boxIndices _ _).mp hidx)
    rw [e1, (hv.addr e2).1]; rfl

end Own
end Multi
