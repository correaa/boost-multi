/-
  MultiProofs.RowsLemmas — helper lemmas for C05's `assign_rows_exact` / `assign_range_rows_exact`: the loops
  `View.rowsLoop` / `View.rangeRowsLoop` (`adl_copy_n(values.begin(), values.size(), begin())`, each `*it = row` a deep
  assignment of a saved row) are the interface program `storeProg` run over the row interface of SeqLemmas, so they store
  the given rows one after the other (`storeProg_all`).
-/
import MultiProofs.AlgoLemmas
import MultiProofs.AlgoViews

namespace Multi
variable {α : Type}

/-- the common shape of `rowsLoop` / `rangeRowsLoop`: `*it = row; ++it;` with `step` the row assignment -/
def stepLoop (step : View → List α → Mem α → Option (Mem α)) : List (List α) → ArrIt → Mem α → Option (Mem α)
  | [], _, m => some m
  | r :: rs, it, m =>
    match step it.deref r m with
    | none => none
    | some m' => stepLoop step rs it.inc m'

theorem rowsLoop_eq_stepLoop (rows : List (List α)) (it : ArrIt) (m : Mem α) :
    View.rowsLoop rows it m = stepLoop (fun r x m => (ElemRange.ofView r).assignVals x m) rows it m := by
  induction rows generalizing it m with
  | nil => rfl
  | cons r rs ih => simp only [View.rowsLoop, stepLoop, ih]; rfl

theorem rangeRowsLoop_eq_stepLoop (rows : List (List α)) (it : ArrIt) (m : Mem α) :
    View.rangeRowsLoop rows it m = stepLoop (fun r x m => r.assignVals1 x m) rows it m := by
  induction rows generalizing it m with
  | nil => rfl
  | cons r rs ih => simp only [View.rangeRowsLoop, stepLoop, ih]; rfl

/-- the row interface of `v` with `step` as its implementation of `*it = value` -/
def rowsIfaceWith (v : View) (step : View → List α → Mem α → Option (Mem α)) : Iface α (List α) :=
  { rowsIface v with wr := fun i x m => step (v.rowAt i) x m }

/-- `stepLoop` from `begin() + i` is `storeProg` (`copy_n` from saved values) run over that interface -/
theorem stepLoop_eq_runWith (v : View) (step : View → List α → Mem α → Option (Mem α)) (rows : List (List α)) (i : Int)
    (m : Mem α) :
    stepLoop step rows (v.begin'.add i) m = (((storeProg rows i).runWith (rowsIfaceWith v step) m).map Prod.fst) := by
  induction rows generalizing i m with
  | nil => rfl
  | cons r rs ih =>
    rw [stepLoop, storeProg, Prog.runWith]
    show (match step (v.rowAt i) r m with | none => none | some m' => _)
      = Option.map Prod.fst (match step (v.rowAt i) r m with | some m' => _ | none => none)
    cases step (v.rowAt i) r m with
    | none => rfl
    | some m' => rw [(arrit_inc_eq_add _).1, arrit_add_add]; exact ih _ _

theorem rowsIfaceWith_refines (v : View) (hwf : v.lay.WF) (hne : v.lay ≠ []) (hinj : v.Injective)
    (step : View → List α → Mem α → Option (Mem α))
    (hstep : ∀ (k : Int) (r : List α) (m : Mem α), 0 ≤ k → k < v.ext.size →
      r.length = (boxIndices v.exts.tail).length → step (v.rowAt k) r m = (v.rowAt k).writeRow r m) :
    (rowsIfaceWith v step).Refines (rowsVal v) (fun a => ¬ v.InImage a)
      (fun x => x.length = (boxIndices v.exts.tail).length) :=
  let R := rows_refines (α := α) v hwf hne hinj
  ⟨R.ok, R.rd, fun m i x y h hx => by
    obtain ⟨h0, h1, _⟩ := nth_rowsVal h
    show ∃ m', step (v.rowAt i) x m = some m' ∧ _
    rw [hstep i x m h0 h1 hx]
    exact R.wr m i x y h hx, R.as, R.sw⟩

/-- storing a full set of rows from `begin()`: the view then denotes exactly `rows` -/
theorem stepLoop_all (v : View) (hwf : v.lay.WF) (hne : v.lay ≠ []) (hinj : v.Injective)
    (step : View → List α → Mem α → Option (Mem α))
    (hstep : ∀ (k : Int) (r : List α) (m : Mem α), 0 ≤ k → k < v.ext.size →
      r.length = (boxIndices v.exts.tail).length → step (v.rowAt k) r m = (v.rowAt k).writeRow r m)
    (rows : List (List α)) (m : Mem α) (hlen : (rows.length : Int) = v.size)
    (hrow : ∀ r ∈ rows, r.length = (boxIndices v.exts.tail).length) :
    ∃ m', stepLoop step rows v.begin' m = some m' ∧ rowsVal v m' = rows ∧
      (∀ (k : Nat) (hk : k < rows.length) (j : Nat) (_ : j < (boxIndices v.exts.tail).length) (hj' : j < rows[k].length),
        m' (v.addr ((v.ext.first + Int.ofNat k) :: (boxIndices v.exts.tail)[j])) = (rows[k])[j]) ∧
      (∀ a, ¬ v.InImage a → m' a = m a) := by
  have hsz : v.size = v.ext.size := (C01.shape_functions_agree v hwf).2.2.1
  have hl : (rowsVal v m).length = rows.length := by
    simp only [rowsVal, List.length_map, List.length_range, ← hsz, ← hlen, Int.toNat_natCast]
  have hb : v.begin' = v.begin'.add 0 := by apply ArrIt.ext_eq <;> simp [ArrIt.add]
  obtain ⟨m', e1, e2, e3⟩ := (rowsIfaceWith_refines v hwf hne hinj step hstep).run (storeProg rows 0)
    (storeProg_typed _ rows hrow 0).toP m rows rows.length (storeProg_all rows (rowsVal v m) hl)
  refine ⟨m', by rw [hb, stepLoop_eq_runWith, e1]; rfl, e2, ?_, e3⟩
  intro k hk j hj hj'
  subst e2
  simp only [rowsVal, List.getElem_map, List.getElem_range]

/-- a 1-D row: `*it = range` (`assignVals1`) is the same store as `elements() = values` -/
theorem assignVals1_eq_writeRow (r : View) (d : Dim) (hr : r.lay = [d]) (hd : d.WF) (x : List α) (m : Mem α)
    (hx : x.length = r.cells.length) : r.assignVals1 x m = r.writeRow x m := by
  have hwf : r.lay.WF := by rw [hr]; intro e he; simp at he; subst he; exact hd
  rw [View.writeRow_eq r x m hwf hx]
  have hnum : (r.cells.length : Int) = r.size := by
    rw [r.cells_length hwf]; simp [View.numElements, View.size, hr, Layout.numElements]
  have hxs : (x.length : Int) = r.size := by rw [hx]; exact hnum
  have hn : x.length = r.size.toNat := by rw [← hxs, Int.toNat_natCast]
  simp only [View.assignVals1, hr, hxs, if_true]
  rw [ArrIt.storeN_eq, hn, View.arr_addrs_one r d hr hd]
  rfl

end Multi
