/-
  MultiProofs.OwnObs — the abstraction is what the correspondence run observes: reading a valid array element by element
  through its index tuples (`Own.elems`, what `q arr` prints) yields exactly the cells of its block in storage order.
-/
import MultiProofs.OwnOps

namespace Multi
namespace Own
variable {α : Type}

theorem range_map_getElem? (cs : List (Cell α)) : (List.range cs.length).map (fun k => cs[k]?) = cs.map some := by
  apply List.ext_getElem?
  intro i
  by_cases hi : i < cs.length <;> simp [hi]

/-- **observation = abstraction**: the elements read through `A[i][j]…` in canonical order are the cells of the block, in order -/
theorem elems_eq_cells {h : Heap α} {a : Arr} (hv : Valid h a) : elems h a = (cellsOf h a).map some := by
  have hok := hv.exts_ok
  have hrank := boxIndices_rank a.exts hok
  rw [hv.nElems_exts, ← hv.cells_length] at hrank
  unfold elems
  rw [List.map_congr_left (fun idx hidx => (readAt_valid hv ((mem_boxIndices _ _).mp hidx)).1),
    ← range_map_getElem?, ← hrank, List.map_map]
  rfl

end Own
end Multi
