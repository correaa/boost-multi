/-
  MultiProofs.SeqLemmas — the refinement behind C03.  An interface on memory in the abstract (`Iface`: read, write, assign,
  swap at integer positions) and the theorem that a program run through an interface whose four interactions refine those
  on a list computes what it computes on the list (`Iface.Refines.run`); the two instances for a well-formed injective
  view: rows through `begin() + i` (`rows_refines`), elements through `elements().begin() + k` (`elems_refines`).
  In front, the run equations of `Prog.runList` with which the list-level proofs of AlgoLemmas rewrite.
-/
import MultiProofs.SeqSpec
import MultiProofs.StoreLemmas
import MultiProofs.C02

namespace Multi
variable {α ρ : Type}

theorem Prog.nth_eq_some {xs : List ρ} {i : Int} {x : ρ} :
    Prog.nth xs i = some x ↔ 0 ≤ i ∧ ∃ h : i.toNat < xs.length, xs[i.toNat] = x := by
  unfold Prog.nth
  by_cases h : 0 ≤ i
  · simp [h, List.getElem?_eq_some_iff]
  · simp [h]

theorem Prog.setNth_self {xs : List ρ} {i : Int} {x : ρ} (h : Prog.nth xs i = some x) : Prog.setNth xs i x = xs := by
  obtain ⟨_, _, rfl⟩ := Prog.nth_eq_some.mp h
  exact List.set_getElem_self _

theorem Prog.nth_nat (xs : List ρ) (i : Nat) : Prog.nth xs (i : Int) = xs[i]? := by
  simp [Prog.nth]

theorem Prog.setNth_nat (xs : List ρ) (i : Nat) (x : ρ) : Prog.setNth xs (i : Int) x = xs.set i x := by
  simp [Prog.setNth]

/- The loop invariants of AlgoLemmas describe the sequence as `pre ++ a :: rest` and the position as `pre.length`. -/

theorem snoc_induction {P : List ρ → Prop} (nil : P []) (snoc : ∀ l a, P l → P (l ++ [a])) (l : List ρ) : P l := by
  rw [← List.reverse_reverse l]
  induction l.reverse with
  | nil => exact nil
  | cons a r ih => rw [List.reverse_cons]; exact snoc _ a ih

theorem getElem?_append_length (pre : List ρ) (a : ρ) (rest : List ρ) : (pre ++ a :: rest)[pre.length]? = some a := by
  simp

theorem set_append_length (pre : List ρ) (a b : ρ) (rest : List ρ) : (pre ++ a :: rest).set pre.length b = pre ++ b :: rest := by
  simp

theorem set_set_append (L : List ρ) (a : ρ) (M : List ρ) (b : ρ) (R : List ρ) (x y : ρ) :
    ((L ++ a :: M ++ b :: R).set L.length x).set (L ++ a :: M).length y = L ++ x :: M ++ y :: R := by
  have h : (L ++ a :: M).length = (L ++ x :: M).length := by simp
  rw [List.append_assoc, List.cons_append, set_append_length, ← List.cons_append, ← List.append_assoc, h, set_append_length]

theorem natCast_succ_sub_one (i : Nat) : ((i + 1 : Nat) : Int) - 1 = i := by omega

theorem natCast_length_snoc (pre : List ρ) (a : ρ) : ((pre.length : Nat) : Int) + 1 = ((pre ++ [a]).length : Nat) := by
  rw [List.length_append]; rfl

theorem natCast_length_ne (A : List ρ) (x : ρ) (M : List ρ) : ((A.length : Nat) : Int) ≠ ((A ++ x :: M).length : Nat) := by
  simp; omega

theorem natCast_length_sub_one (A : List ρ) (x : ρ) (M : List ρ) :
    (((A ++ x :: M).length : Nat) : Int) - 1 = ((A ++ M).length : Nat) := by
  simp; omega

theorem Prog.runList_read_bind (i : Int) (k : ρ → Prog ρ) (xs : List ρ) :
    (Prog.read i k).runList xs = (Prog.nth xs i).bind fun x => (k x).runList xs := by
  rw [Prog.runList]; cases Prog.nth xs i <;> rfl

theorem Prog.runList_write_bind (i : Int) (x : ρ) (k : Prog ρ) (xs : List ρ) :
    (Prog.write i x k).runList xs = (Prog.nth xs i).bind fun _ => k.runList (Prog.setNth xs i x) := by
  rw [Prog.runList]; cases Prog.nth xs i <;> rfl

theorem Prog.runList_assign_bind (i j : Int) (k : Prog ρ) (xs : List ρ) :
    (Prog.assign i j k).runList xs
      = (Prog.nth xs i).bind fun _ => (Prog.nth xs j).bind fun y => k.runList (Prog.setNth xs i y) := by
  rw [Prog.runList]; cases Prog.nth xs i <;> cases Prog.nth xs j <;> rfl

theorem Prog.runList_swap_bind (i j : Int) (k : Prog ρ) (xs : List ρ) :
    (Prog.swap i j k).runList xs
      = (Prog.nth xs i).bind fun x => (Prog.nth xs j).bind fun y => k.runList (Prog.setNth (Prog.setNth xs i y) j x) := by
  rw [Prog.runList]; cases Prog.nth xs i <;> cases Prog.nth xs j <;> rfl

theorem Prog.runList_read {xs : List ρ} {i : Nat} {x : ρ} (k : ρ → Prog ρ) (h : xs[i]? = some x) :
    (Prog.read (i : Int) k).runList xs = (k x).runList xs := by
  rw [Prog.runList_read_bind, Prog.nth_nat, h]; rfl

theorem Prog.runList_write {xs : List ρ} {i : Nat} (x : ρ) (k : Prog ρ) (h : i < xs.length) :
    (Prog.write (i : Int) x k).runList xs = k.runList (xs.set i x) := by
  rw [Prog.runList_write_bind, Prog.nth_nat, List.getElem?_eq_getElem h]; rfl

theorem Prog.runList_assign {xs : List ρ} {i j : Nat} {y : ρ} (k : Prog ρ) (hi : i < xs.length) (hj : xs[j]? = some y) :
    (Prog.assign (i : Int) (j : Int) k).runList xs = k.runList (xs.set i y) := by
  rw [Prog.runList_assign_bind, Prog.nth_nat, Prog.nth_nat, List.getElem?_eq_getElem hi, hj]; rfl

theorem Prog.runList_swap {xs : List ρ} {i j : Nat} {x y : ρ} (k : Prog ρ) (hi : xs[i]? = some x) (hj : xs[j]? = some y) :
    (Prog.swap (i : Int) (j : Int) k).runList xs = k.runList ((xs.set i y).set j x) := by
  rw [Prog.runList_swap_bind, Prog.nth_nat, Prog.nth_nat, hi, hj]; rfl

theorem Prog.runList_read_zero (a : ρ) (rest : List ρ) (k : ρ → Prog ρ) :
    (Prog.read 0 k).runList (a :: rest) = (k a).runList (a :: rest) := rfl

theorem Prog.runList_read_mid (pre : List ρ) (a : ρ) (rest : List ρ) (k : ρ → Prog ρ) :
    (Prog.read (pre.length : Int) k).runList (pre ++ a :: rest) = (k a).runList (pre ++ a :: rest) :=
  Prog.runList_read k (getElem?_append_length pre a rest)

theorem Prog.runList_write_mid (pre : List ρ) (a : ρ) (rest : List ρ) (x : ρ) (k : Prog ρ) :
    (Prog.write (pre.length : Int) x k).runList (pre ++ a :: rest) = k.runList (pre ++ x :: rest) := by
  rw [Prog.runList_write x k (by simp), set_append_length]

theorem Prog.runList_swap_mid (L : List ρ) (a : ρ) (M : List ρ) (b : ρ) (R : List ρ) (k : Prog ρ) :
    (Prog.swap (L.length : Int) ((L ++ a :: M).length : Int) k).runList (L ++ a :: M ++ b :: R)
      = k.runList (L ++ b :: M ++ a :: R) := by
  rw [Prog.runList_swap k (by simp : (L ++ a :: M ++ b :: R)[L.length]? = some a)
    (getElem?_append_length (L ++ a :: M) b R), set_set_append]

/-- one implementation of the four interactions on memory -/
structure Iface (α ρ : Type) where
  rd : Int → Mem α → Option ρ
  wr : Int → ρ → Mem α → Option (Mem α)
  as : Int → Int → Mem α → Option (Mem α)
  sw : Int → Int → Mem α → Option (Mem α)

def Prog.runWith (I : Iface α ρ) : Prog ρ → Mem α → Option (Mem α × Int)
  | .ret p, m => some (m, p)
  | .read i k, m => match I.rd i m with | some x => runWith I (k x) m | none => none
  | .write i x k, m => match I.wr i x m with | some m' => runWith I k m' | none => none
  | .assign i j k, m => match I.as i j m with | some m' => runWith I k m' | none => none
  | .swap i j k, m => match I.sw i j m with | some m' => runWith I k m' | none => none

/-- every value the program writes satisfies `Ok` (continuations are only constrained on `Ok` values read) -/
inductive Prog.TypedP (Ok : ρ → Prop) : Prog ρ → Prop
  | ret (p : Int) : TypedP Ok (.ret p)
  | read (i : Int) (k : ρ → Prog ρ) : (∀ x, Ok x → TypedP Ok (k x)) → TypedP Ok (.read i k)
  | write (i : Int) (x : ρ) (k : Prog ρ) : Ok x → TypedP Ok k → TypedP Ok (.write i x k)
  | assign (i j : Int) (k : Prog ρ) : TypedP Ok k → TypedP Ok (.assign i j k)
  | swap (i j : Int) (k : Prog ρ) : TypedP Ok k → TypedP Ok (.swap i j k)

theorem Prog.Typed.toP {n : Nat} {p : Prog (List α)} (h : p.Typed n) : p.TypedP (fun x => x.length = n) := by
  induction h with
  | ret p => exact .ret p
  | read i k _ ih => exact .read i k ih
  | write i x k hx _ ih => exact .write i x k hx ih
  | assign i j k _ ih => exact .assign i j k ih
  | swap i j k _ ih => exact .swap i j k ih

theorem Prog.typedP_true (p : Prog ρ) : p.TypedP (fun _ => True) := by
  induction p with
  | ret p => exact .ret p
  | read i k ih => exact .read i k (fun x _ => ih x)
  | write i x k ih => exact .write i x k trivial ih
  | assign i j k ih => exact .assign i j k ih
  | swap i j k ih => exact .swap i j k ih

/-- each interaction on memory does what the same interaction does on the sequence `S m` the memory denotes, and
    changes no cell satisfying `Frame` -/
structure Iface.Refines (I : Iface α ρ) (S : Mem α → List ρ) (Frame : Int → Prop) (Ok : ρ → Prop) : Prop where
  ok : ∀ m i x, Prog.nth (S m) i = some x → Ok x
  rd : ∀ m i x, Prog.nth (S m) i = some x → I.rd i m = some x
  wr : ∀ m i x y, Prog.nth (S m) i = some y → Ok x →
    ∃ m', I.wr i x m = some m' ∧ S m' = Prog.setNth (S m) i x ∧ ∀ a, Frame a → m' a = m a
  as : ∀ m i j x y, Prog.nth (S m) i = some x → Prog.nth (S m) j = some y →
    ∃ m', I.as i j m = some m' ∧ S m' = Prog.setNth (S m) i y ∧ ∀ a, Frame a → m' a = m a
  sw : ∀ m i j x y, Prog.nth (S m) i = some x → Prog.nth (S m) j = some y →
    ∃ m', I.sw i j m = some m' ∧ S m' = Prog.setNth (Prog.setNth (S m) i y) j x ∧ ∀ a, Frame a → m' a = m a

/-- a program over a refining interface computes on memory what it computes on the denoted sequence -/
theorem Iface.Refines.run {I : Iface α ρ} {S : Mem α → List ρ} {Frame : Int → Prop} {Ok : ρ → Prop}
    (R : I.Refines S Frame Ok) (p : Prog ρ) (hp : p.TypedP Ok) (m : Mem α) (xs' : List ρ) (pos : Int)
    (h : p.runList (S m) = some (xs', pos)) :
    ∃ m', p.runWith I m = some (m', pos) ∧ S m' = xs' ∧ ∀ a, Frame a → m' a = m a := by
  induction p generalizing m with
  | ret q =>
    simp only [Prog.runList, Option.some.injEq, Prod.mk.injEq] at h
    exact ⟨m, by simp [Prog.runWith, h.2], h.1, fun _ _ => rfl⟩
  | read i k ih =>
    cases hp with
    | read _ _ hk =>
      obtain ⟨x, hn, h⟩ := Option.bind_eq_some_iff.1 (Prog.runList_read_bind i k _ ▸ h)
      obtain ⟨m', e1, e2, e3⟩ := ih x (hk x (R.ok m i x hn)) m h
      exact ⟨m', by simp only [Prog.runWith, R.rd m i x hn, e1], e2, e3⟩
  | write i x k ih =>
    cases hp with
    | write _ _ _ hx hk =>
      obtain ⟨y, hn, h⟩ := Option.bind_eq_some_iff.1 (Prog.runList_write_bind i x k _ ▸ h)
      obtain ⟨m1, w1, w2, w3⟩ := R.wr m i x y hn hx
      obtain ⟨m', e1, e2, e3⟩ := ih hk m1 (w2 ▸ h)
      exact ⟨m', by simp only [Prog.runWith, w1, e1], e2, fun a ha => (e3 a ha).trans (w3 a ha)⟩
  | assign i j k ih =>
    cases hp with
    | assign _ _ _ hk =>
      obtain ⟨x, hn, h⟩ := Option.bind_eq_some_iff.1 (Prog.runList_assign_bind i j k _ ▸ h)
      obtain ⟨y, hn', h⟩ := Option.bind_eq_some_iff.1 h
      obtain ⟨m1, w1, w2, w3⟩ := R.as m i j x y hn hn'
      obtain ⟨m', e1, e2, e3⟩ := ih hk m1 (w2 ▸ h)
      exact ⟨m', by simp only [Prog.runWith, w1, e1], e2, fun a ha => (e3 a ha).trans (w3 a ha)⟩
  | swap i j k ih =>
    cases hp with
    | swap _ _ _ hk =>
      obtain ⟨x, hn, h⟩ := Option.bind_eq_some_iff.1 (Prog.runList_swap_bind i j k _ ▸ h)
      obtain ⟨y, hn', h⟩ := Option.bind_eq_some_iff.1 h
      obtain ⟨m1, w1, w2, w3⟩ := R.sw m i j x y hn hn'
      obtain ⟨m', e1, e2, e3⟩ := ih hk m1 (w2 ▸ h)
      exact ⟨m', by simp only [Prog.runWith, w1, e1], e2, fun a ha => (e3 a ha).trans (w3 a ha)⟩

def rowsIface (v : View) : Iface α (List α) where
  rd i m := (v.rowAt i).readRow m
  wr i x m := (v.rowAt i).writeRow x m
  as i j m := (v.rowAt i).assignRow (v.rowAt j) m
  sw i j m := (v.rowAt i).swapRow (v.rowAt j) m

theorem runRows_eq (p : Prog (List α)) (v : View) : p.runRows v = p.runWith (rowsIface v) := by
  induction p with
  | ret q => rfl
  | read i k ih =>
    funext m
    simp only [Prog.runRows, Prog.runWith, ih, rowsIface]
    cases (v.rowAt i).readRow m <;> rfl
  | write i x k ih => funext m; simp only [Prog.runRows, Prog.runWith, ih]; rfl
  | assign i j k ih => funext m; simp only [Prog.runRows, Prog.runWith, ih]; rfl
  | swap i j k ih => funext m; simp only [Prog.runRows, Prog.runWith, ih]; rfl

def elemsIface (v : View) : Iface α α where
  rd i m := (v.elemAt i).map m
  wr i x m := (v.elemAt i).map fun a => m.write a x
  as i j m := match v.elemAt i, v.elemAt j with | some a, some b => some (m.write a (m b)) | _, _ => none
  sw i j m := match v.elemAt i, v.elemAt j with | some a, some b => some ((m.write a (m b)).write b (m a)) | _, _ => none

theorem runElems_eq (p : Prog α) (v : View) : p.runElems v = p.runWith (elemsIface v) := by
  induction p with
  | ret q => rfl
  | read i k ih => funext m; simp only [Prog.runElems, Prog.runWith, ih, elemsIface]; cases v.elemAt i <;> rfl
  | write i x k ih => funext m; simp only [Prog.runElems, Prog.runWith, ih, elemsIface]; cases v.elemAt i <;> rfl
  | assign i j k ih =>
    funext m
    simp only [Prog.runElems, Prog.runWith, ih, elemsIface]
    cases v.elemAt i <;> cases v.elemAt j <;> rfl
  | swap i j k ih =>
    funext m
    simp only [Prog.runElems, Prog.runWith, ih, elemsIface]
    cases v.elemAt i <;> cases v.elemAt j <;> rfl

/- The operations on one row (any well-formed view, including a 0-D element) are list loops over its cells. -/

/-- the cells of a view in canonical order -/
def View.cells (r : View) : List Int := (boxIndices r.exts).map r.addr

theorem View.addr_nil (r : View) : r.addr [] = r.base := by
  rw [addr_eq]; cases r.lay <;> simp [Layout.off]

theorem View.cells_of_nil {r : View} (h : r.lay = []) : r.cells = [r.base] := by
  simp [View.cells, View.exts, Layout.exts, h, boxIndices, View.addr_nil]

theorem View.mem_cells_iff (r : View) (a : Int) : a ∈ r.cells ↔ r.InImage a := View.mem_addrs_iff r a

theorem View.cells_length (r : View) (hwf : r.lay.WF) : (r.cells.length : Int) = r.numElements := by
  simp only [View.cells, List.length_map]; exact boxIndices_length r hwf

theorem View.cells_nodup (r : View) (hinj : r.Injective) : r.cells.Nodup :=
  nodup_map_of_inj_on _ _ (boxIndices_nodup _) hinj.on_box

theorem View.readRow_eq (r : View) (m : Mem α) (hwf : r.lay.WF) : r.readRow m = some (r.cells.map m) := by
  unfold View.readRow
  by_cases hne : r.lay = []
  · simp [View.read, hne, View.cells_of_nil hne]
  · rw [View.read_eq r m hwf hne, View.cells, List.map_map]; rfl

theorem View.writeRow_eq (r : View) (x : List α) (m : Mem α) (hwf : r.lay.WF) (hx : x.length = r.cells.length) :
    r.writeRow x m = some (writeList (r.cells.zip x) m) := by
  unfold View.writeRow
  cases hl : r.lay with
  | nil =>
    rw [View.cells_of_nil hl] at hx ⊢
    match x, hx with
    | [a], _ => rfl
  | cons d l =>
    obtain ⟨b, e, hb, _, _, hsize, haddrs⟩ := elemit_kth r hwf
    have hlen := r.cells_length hwf
    simp only [ElemRange.assignVals, hsize]
    have : (x.length : Int) = r.numElements := by rw [hx]; exact hlen
    simp only [this, ne_eq, not_true_eq_false, if_false, hb, Option.bind_eq_bind, Option.bind_some]
    apply ElemIt.storeN_eq
    rw [hx]; simp only [View.cells, List.length_map]; exact haddrs

theorem View.lay_nil_of_exts_eq {r s : View} (hext : r.exts = s.exts) (hl : r.lay = []) : s.lay = [] :=
  (View.exts_nil_iff s).mp (hext ▸ (View.exts_nil_iff r).mpr hl)

theorem View.cells_zip_of_exts_eq {r s : View} (hext : r.exts = s.exts) :
    r.cells.zip s.cells = ((boxIndices r.exts).map r.addr).zip ((boxIndices r.exts).map s.addr) := by
  rw [View.cells, View.cells, hext]

theorem View.assignRow_eq (r s : View) (m : Mem α) (hr : r.lay.WF) (hs : s.lay.WF) (hext : r.exts = s.exts) :
    r.assignRow s m = some (copyList (r.cells.zip s.cells) m) := by
  unfold View.assignRow
  cases hl : r.lay with
  | nil => rw [View.cells_of_nil hl, View.cells_of_nil (View.lay_nil_of_exts_eq hext hl)]; rfl
  | cons d l =>
    rw [View.cells_zip_of_exts_eq hext]
    exact View.assign_eq r s m hr hs (hl ▸ List.cons_ne_nil d l) hext

theorem View.swapRow_eq (r s : View) (m : Mem α) (hr : r.lay.WF) (hs : s.lay.WF) (hext : r.exts = s.exts) :
    r.swapRow s m = some (swapList (r.cells.zip s.cells) m) := by
  unfold View.swapRow
  cases hl : r.lay with
  | nil => rw [View.cells_of_nil hl, View.cells_of_nil (View.lay_nil_of_exts_eq hext hl)]; rfl
  | cons d l =>
    rw [View.cells_zip_of_exts_eq hext]
    exact View.swap_eq r s m hr hs (hl ▸ List.cons_ne_nil d l) hext

theorem swapList_self (ps : List (Int × Int)) (m : Mem α) (h : ∀ p ∈ ps, p.1 = p.2) : swapList ps m = m := by
  induction ps generalizing m with
  | nil => rfl
  | cons p ps ih =>
    rw [swapList, h p (by simp), Mem.write_self, Mem.write_self]
    exact ih m (fun q hq => h q (List.mem_cons_of_mem _ hq))

theorem zip_self_eq (l : List Int) : ∀ p ∈ l.zip l, p.1 = p.2 := by
  induction l with
  | nil => intro p hp; simp at hp
  | cons a l ih =>
    intro p hp
    rw [List.zip_cons_cons] at hp
    rcases List.mem_cons.mp hp with rfl | hp
    · rfl
    · exact ih p hp

theorem map_writeList_zip (as : List Int) (x : List α) (m : Mem α) (hnd : as.Nodup) (hlen : as.length = x.length) :
    as.map (writeList (as.zip x) m) = x := by
  apply List.ext_getElem
  · simpa using hlen
  · intro k h1 h2
    rw [List.getElem_map]
    exact writeList_zip_getElem as x m hnd hlen k h2

theorem map_range_eq_set (N : Nat) (val val' : Nat → ρ) (i : Nat) (x : ρ) (hx : val' i = x)
    (ho : ∀ k, k < N → k ≠ i → val' k = val k) :
    (List.range N).map val' = ((List.range N).map val).set i x := by
  apply List.ext_getElem
  · simp
  · intro k h1 h2
    simp only [List.length_map, List.length_range] at h1
    simp only [List.getElem_map, List.getElem_range, List.getElem_set]
    by_cases hk : i = k
    · subst hk; simp [hx]
    · simp only [hk, if_false]; exact ho k h1 (fun h => hk h.symm)

theorem map_range_eq_set_set (N : Nat) (val val' : Nat → ρ) (i j : Nat) (x y : ρ) (hi : val' i = y) (hj : val' j = x)
    (ho : ∀ k, k < N → k ≠ i → k ≠ j → val' k = val k) :
    (List.range N).map val' = (((List.range N).map val).set i y).set j x := by
  rw [← map_range_eq_set N val (fun k => if k = i then y else val k) i y (if_pos rfl) (fun k _ hk => if_neg hk)]
  refine map_range_eq_set N _ val' j x hj fun k hk hkj => ?_
  show val' k = if k = i then y else val k
  by_cases hki : k = i
  · rw [if_pos hki, hki, hi]
  · rw [if_neg hki]; exact ho k hk hki hkj

/-- address of the cell `idx` of row `k` (index-based: leading index `first + k`) -/
def rowAddr (v : View) (k : Int) (idx : List Int) : Int := v.addr ((v.ext.first + k) :: idx)

def rowCells (v : View) (k : Int) : List Int := (boxIndices v.exts.tail).map (rowAddr v k)

theorem rowCells_length (v : View) (k : Int) : (rowCells v k).length = (boxIndices v.exts.tail).length :=
  List.length_map _

theorem map_rowCells_congr {v : View} {m m' : Mem α} {i j : Int}
    (h : ∀ idx ∈ boxIndices v.exts.tail, m' (rowAddr v i idx) = m (rowAddr v j idx)) :
    (rowCells v i).map m' = (rowCells v j).map m := by
  simp only [rowCells, List.map_map]
  exact List.map_congr_left h

theorem rowsVal_eq (v : View) (m : Mem α) :
    rowsVal v m = (List.range v.ext.size.toNat).map (fun (k : Nat) => (rowCells v k).map m) := by
  simp only [rowsVal, rowCells, List.map_map]; rfl

theorem nth_rowsVal {v : View} {m : Mem α} {i : Int} {x : List α} (h : Prog.nth (rowsVal v m) i = some x) :
    0 ≤ i ∧ i < v.ext.size ∧ x = (rowCells v i).map m := by
  obtain ⟨h0, hlt, hx⟩ := Prog.nth_eq_some.mp h
  have hlt' : i.toNat < v.ext.size.toNat := by simpa [rowsVal] using hlt
  refine ⟨h0, by have := Int.lt_toNat.1 hlt'; rwa [Int.toNat_of_nonneg h0] at this, ?_⟩
  rw [← hx]
  simp only [rowsVal_eq, List.getElem_map, List.getElem_range]
  rw [Int.toNat_of_nonneg h0]

theorem inBox_row {v : View} {d : Dim} {sub : Layout} (hv : v.lay = d :: sub) {i : Int} (h0 : 0 ≤ i)
    (h1 : i < v.ext.size) {idx : List Int} (h : idx ∈ boxIndices v.exts.tail) :
    InBox v.exts ((v.ext.first + i) :: idx) := by
  rw [mem_boxIndices] at h
  simp only [View.exts, View.ext, Layout.exts, hv, List.map_cons, List.tail_cons, InBox, Ext.size] at h h1 ⊢
  exact ⟨⟨Int.le_add_of_nonneg_right h0, Int.add_lt_of_lt_sub_left h1⟩, h⟩

theorem rowAddr_inj {v : View} (hne : v.lay ≠ []) (hinj : v.Injective) {i j : Int}
    (hi0 : 0 ≤ i) (hi1 : i < v.ext.size) (hj0 : 0 ≤ j) (hj1 : j < v.ext.size) {a b : List Int}
    (ha : a ∈ boxIndices v.exts.tail) (hb : b ∈ boxIndices v.exts.tail) (h : rowAddr v i a = rowAddr v j b) :
    i = j ∧ a = b := by
  cases hv : v.lay with
  | nil => exact absurd hv hne
  | cons d sub =>
    have := hinj _ _ (inBox_row hv hi0 hi1 ha) (inBox_row hv hj0 hj1 hb) h
    simp only [List.cons.injEq] at this
    exact ⟨Int.add_left_cancel this.1, this.2⟩

theorem rowCells_image {v : View} (hne : v.lay ≠ []) {i : Int} (h0 : 0 ≤ i) (h1 : i < v.ext.size) {a : Int}
    (h : a ∈ rowCells v i) : v.InImage a := by
  cases hv : v.lay with
  | nil => exact absurd hv hne
  | cons d sub =>
    obtain ⟨idx, hidx, rfl⟩ := List.mem_map.mp h
    exact ⟨_, inBox_row hv h0 h1 hidx, rfl⟩

theorem rowCells_disjoint {v : View} (hne : v.lay ≠ []) (hinj : v.Injective) {i j : Int}
    (hi0 : 0 ≤ i) (hi1 : i < v.ext.size) (hj0 : 0 ≤ j) (hj1 : j < v.ext.size) (hij : i ≠ j) {a : Int}
    (h : a ∈ rowCells v i) : a ∉ rowCells v j := by
  intro h'
  obtain ⟨x, hx, rfl⟩ := List.mem_map.mp h
  obtain ⟨y, hy, e⟩ := List.mem_map.mp h'
  exact hij (rowAddr_inj hne hinj hi0 hi1 hj0 hj1 hx hy e.symm).1

theorem rowCells_nodup {v : View} (hne : v.lay ≠ []) (hinj : v.Injective) {i : Int}
    (h0 : 0 ≤ i) (h1 : i < v.ext.size) : (rowCells v i).Nodup :=
  nodup_map_of_inj_on _ _ (boxIndices_nodup _) (fun _ ha _ hb h => (rowAddr_inj hne hinj h0 h1 h0 h1 ha hb h).2)

/-- `*(begin() + i)` is row `i`: well-formed, with the extensions of a row and the cells `rowCells v i` -/
theorem rowAt_props {v : View} (hwf : v.lay.WF) (hne : v.lay ≠ []) {i : Int} (h0 : 0 ≤ i) (h1 : i < v.ext.size) :
    (v.rowAt i).lay.WF ∧ (v.rowAt i).exts = v.exts.tail ∧ (v.rowAt i).cells = rowCells v i := by
  cases hv : v.lay with
  | nil => exact absurd hv hne
  | cons d sub =>
    have hd : d.WF := by rw [hv] at hwf; exact hwf.head
    have hr : v.rowAt i = ⟨v.base + d.stride * i, sub⟩ := by
      simp [View.rowAt, View.begin', hv, ArrIt.add, ArrIt.deref]
    have hex : (v.rowAt i).exts = v.exts.tail := by simp [hr, View.exts, hv, Layout.exts]
    refine ⟨by rw [hr]; rw [hv] at hwf; exact hwf.tail, hex, ?_⟩
    simp only [View.cells, rowCells, hex]
    apply List.map_congr_left
    intro idx _
    simp only [rowAddr, addr_eq, hr, hv, Layout.off, View.ext]
    simp only [View.ext, hv] at h1
    rcases hd.cases with hz | ⟨f, n, hn, hs, hf, hnn, he, _⟩
    · rw [Dim.ext_of_nelems_zero hz] at h1; exact absurd h1 (Int.not_lt.2 h0)
    · rw [he, hf]; simp only [Int.add_mul, Int.mul_comm d.stride i]; omega

/-- the proxy-iterator interface of a well-formed injective view refines the sequence of its row values -/
theorem rows_refines (v : View) (hwf : v.lay.WF) (hne : v.lay ≠ []) (hinj : v.Injective) :
    (rowsIface v : Iface α (List α)).Refines (rowsVal v) (fun a => ¬ v.InImage a)
      (fun x => x.length = (boxIndices v.exts.tail).length) := by
  have other : ∀ {i : Int} {k : Nat}, 0 ≤ i → i < v.ext.size → k < v.ext.size.toNat → k ≠ i.toNat →
      ∀ a ∈ rowCells v k, a ∉ rowCells v i := fun h0 h1 hk hki a ha =>
    rowCells_disjoint hne hinj (Int.natCast_nonneg _) (Int.lt_toNat.1 hk) h0 h1 (fun h => hki (by rw [← h]; simp)) ha
  -- a memory that agrees with `m` on every row but row `i`, where it holds `x`
  have upd : ∀ (m m' : Mem α) (i : Int) (x : List α), 0 ≤ i → i < v.ext.size → (rowCells v i).map m' = x →
      (∀ a, a ∉ rowCells v i → m' a = m a) → rowsVal v m' = Prog.setNth (rowsVal v m) i x := by
    intro m m' i x h0 h1 hx ho
    rw [rowsVal_eq, rowsVal_eq, Prog.setNth]
    apply map_range_eq_set
    · rw [Int.toNat_of_nonneg h0]; exact hx
    · intro k hk hki
      exact List.map_congr_left fun a ha => ho a (other h0 h1 hk hki a ha)
  constructor
  · intro m i x h
    obtain ⟨_, _, rfl⟩ := nth_rowsVal h
    rw [List.length_map, rowCells_length]
  · intro m i x h
    obtain ⟨h0, h1, rfl⟩ := nth_rowsVal h
    obtain ⟨rwf, _, rcells⟩ := rowAt_props hwf hne h0 h1
    show (v.rowAt i).readRow m = _
    rw [View.readRow_eq _ m rwf, rcells]
  · intro m i x y h hx
    obtain ⟨h0, h1, _⟩ := nth_rowsVal h
    obtain ⟨rwf, _, rcells⟩ := rowAt_props hwf hne h0 h1
    have hlen : x.length = (v.rowAt i).cells.length := by rw [rcells, hx, rowCells_length]
    refine ⟨_, View.writeRow_eq (v.rowAt i) x m rwf hlen, ?_, ?_⟩
    · rw [rcells] at hlen ⊢
      exact upd m _ i x h0 h1 (map_writeList_zip _ x m (rowCells_nodup hne hinj h0 h1) hlen.symm)
        (fun a ha => writeList_zip_not_mem _ _ _ _ ha)
    · intro a ha
      rw [rcells]
      exact writeList_zip_not_mem _ _ _ _ (fun hc => ha (rowCells_image hne h0 h1 hc))
  · intro m i j x y hi hj
    obtain ⟨hi0, hi1, _⟩ := nth_rowsVal hi
    obtain ⟨hj0, hj1, hy⟩ := nth_rowsVal hj
    obtain ⟨iwf, iex, icells⟩ := rowAt_props hwf hne hi0 hi1
    obtain ⟨jwf, jex, jcells⟩ := rowAt_props hwf hne hj0 hj1
    refine ⟨_, View.assignRow_eq (v.rowAt i) (v.rowAt j) m iwf jwf (iex.trans jex.symm), ?_, ?_⟩
    · rw [icells, jcells]
      by_cases hij : i = j
      · subst hij
        rw [copyList_self _ _ (zip_self_eq _), Prog.setNth_self hj]
      · obtain ⟨c1, c2⟩ := copyList_spec (boxIndices v.exts.tail) (rowAddr v i) (rowAddr v j) m (boxIndices_nodup _)
          (fun a ha b hb h => (rowAddr_inj hne hinj hi0 hi1 hi0 hi1 ha hb h).2)
          (fun a ha b hb h => hij (rowAddr_inj hne hinj hi0 hi1 hj0 hj1 ha hb h).1)
        apply upd m _ i y hi0 hi1
        · rw [hy]
          exact map_rowCells_congr c1
        · intro a ha; exact c2 a ha
    · intro a ha
      rw [icells, jcells]
      apply copyList_not_mem
      rw [List.map_fst_zip (Nat.le_of_eq ((rowCells_length v i).trans (rowCells_length v j).symm))]
      exact fun hc => ha (rowCells_image hne hi0 hi1 hc)
  · intro m i j x y hi hj
    obtain ⟨hi0, hi1, hx⟩ := nth_rowsVal hi
    obtain ⟨hj0, hj1, hy⟩ := nth_rowsVal hj
    obtain ⟨iwf, iex, icells⟩ := rowAt_props hwf hne hi0 hi1
    obtain ⟨jwf, jex, jcells⟩ := rowAt_props hwf hne hj0 hj1
    refine ⟨_, View.swapRow_eq (v.rowAt i) (v.rowAt j) m iwf jwf (iex.trans jex.symm), ?_, ?_⟩
    · rw [icells, jcells]
      by_cases hij : i = j
      · subst hij
        rw [swapList_self _ _ (zip_self_eq _), Prog.setNth_self hj, Prog.setNth_self hi]
      · obtain ⟨c1, c2⟩ := swapList_spec (boxIndices v.exts.tail) (rowAddr v i) (rowAddr v j) m (boxIndices_nodup _)
          (fun a ha b hb h => (rowAddr_inj hne hinj hi0 hi1 hi0 hi1 ha hb h).2)
          (fun a ha b hb h => (rowAddr_inj hne hinj hj0 hj1 hj0 hj1 ha hb h).2)
          (fun a ha b hb h => hij (rowAddr_inj hne hinj hi0 hi1 hj0 hj1 ha hb h).1)
        rw [rowsVal_eq, rowsVal_eq, Prog.setNth, Prog.setNth]
        apply map_range_eq_set_set
        · rw [Int.toNat_of_nonneg hi0, hy]
          exact map_rowCells_congr fun idx hidx => (c1 idx hidx).1
        · rw [Int.toNat_of_nonneg hj0, hx]
          exact map_rowCells_congr fun idx hidx => (c1 idx hidx).2
        · intro k hk hki hkj
          exact List.map_congr_left fun a ha => c2 a (other hi0 hi1 hk hki a ha) (other hj0 hj1 hk hkj a ha)
    · intro a ha
      rw [icells, jcells]
      have hl : (rowCells v i).length = (rowCells v j).length := (rowCells_length v i).trans (rowCells_length v j).symm
      apply swapList_not_mem
      · rw [List.map_fst_zip (Nat.le_of_eq hl)]
        exact fun hc => ha (rowCells_image hne hi0 hi1 hc)
      · rw [List.map_snd_zip (Nat.le_of_eq hl.symm)]
        exact fun hc => ha (rowCells_image hne hj0 hj1 hc)

theorem allPos_of_nElems_pos {l : Layout} (hwf : l.WF) (h : 0 < nElems l.exts) : AllPos (Layout.sizes l) := by
  rw [hwf.sizes_eq]
  intro n hn
  obtain ⟨e, he, rfl⟩ := List.mem_map.mp hn
  exact Int.sub_pos.mpr (pos_of_nElems_ne_zero _ hwf.exts_le (Int.ne_of_gt h) e he)

theorem elemsVal_eq (v : View) (m : Mem α) : elemsVal v m = v.cells.map m := by
  simp only [elemsVal, View.cells, List.map_map]; rfl

/-- `*(elements().begin() + k)` is the `k`-th cell in canonical order -/
theorem elemAt_eq (v : View) (hwf : v.lay.WF) (hne : v.lay ≠ []) (k : Int) (h0 : 0 ≤ k) (h1 : k.toNat < v.cells.length) :
    v.elemAt k = some v.cells[k.toNat] := by
  have hle := hwf.exts_le
  have hlen : v.cells.length = (nElems v.exts).toNat := by
    simp only [View.cells, List.length_map]; exact boxIndices_length_eq _ hle
  have hk : k < nElems v.exts := by
    have := Int.lt_toNat.1 (hlen ▸ h1)
    rwa [Int.toNat_of_nonneg h0] at this
  have hv : C02.NonEmpty v := ⟨hwf, by
    cases hl : v.lay with
    | nil => exact absurd hl hne
    | cons d l => simp [Layout.sizes], allPos_of_nElems_pos hwf (Int.lt_of_le_of_lt h0 hk)⟩
  obtain ⟨⟨b, hb, gb, hbn⟩, _, hsize⟩ := C02.begin_end_good v hv
  obtain ⟨_, _, _, _, _, hsize', _⟩ := elemit_kth v hwf
  have hprod : prodSizes (Layout.sizes v.lay) = nElems v.exts := by
    rw [← hsize, hsize', View.numElements, numElements_eq_nElems hwf]; rfl
  obtain ⟨⟨it', hadd, g', hn', _⟩, _⟩ := C02.elemit_add v hv b gb k (by rw [hbn, Int.zero_add]; exact h0)
    (by rw [hbn, Int.zero_add, hprod]; exact Int.le_of_lt hk)
  have hk' : k.toNat < (boxIndices v.exts).length := by simpa [View.cells] using h1
  have hidx : InBox v.exts (boxIndices v.exts)[k.toNat] := (mem_boxIndices _ _).mp (List.getElem_mem hk')
  have hcur := C02.elemit_deref v hwf _ hidx it' g'
    (hn'.trans (by rw [hbn, Int.zero_add, (boxIndices_getElem (xs := v.exts) hle _ hk').2, Int.toNat_of_nonneg h0]))
  simp only [View.elemAt, hb, hadd, Option.bind_eq_bind, Option.bind_some, Option.pure_def, hcur, View.cells,
    List.getElem_map]

theorem nth_elemsVal {v : View} (hwf : v.lay.WF) (hne : v.lay ≠ []) {m : Mem α} {i : Int} {x : α}
    (h : Prog.nth (elemsVal v m) i = some x) :
    ∃ hk : i.toNat < v.cells.length, v.elemAt i = some v.cells[i.toNat] ∧ x = m v.cells[i.toNat] := by
  obtain ⟨h0, hlt, hx⟩ := Prog.nth_eq_some.mp h
  have hk : i.toNat < v.cells.length := by simpa [elemsVal_eq] using hlt
  refine ⟨hk, elemAt_eq v hwf hne i h0 hk, ?_⟩
  rw [← hx]; simp only [elemsVal_eq, List.getElem_map]

theorem map_write_getElem (A : List Int) (hnd : A.Nodup) (m : Mem α) (k : Nat) (hk : k < A.length) (x : α) :
    A.map (m.write A[k] x) = (A.map m).set k x := by
  apply List.ext_getElem
  · simp
  · intro j h1 h2
    simp only [List.length_map] at h1
    simp only [List.getElem_map, List.getElem_set]
    by_cases hkj : k = j
    · subst hkj; simp [Mem.write_same]
    · simp only [hkj, if_false]
      exact Mem.write_other _ _ (fun h => hkj ((List.getElem_inj hnd).1 h).symm)

/-- the `elements()` interface of a well-formed injective view refines the sequence of its element values -/
theorem elems_refines (v : View) (hwf : v.lay.WF) (hne : v.lay ≠ []) (hinj : v.Injective) :
    (elemsIface v : Iface α α).Refines (elemsVal v) (fun a => ¬ v.InImage a) (fun _ => True) := by
  have hnd := v.cells_nodup hinj
  have himg : ∀ (k : Nat) (hk : k < v.cells.length) (a : Int), ¬ v.InImage a → a ≠ v.cells[k] := by
    intro k hk a ha h
    exact ha ((v.mem_cells_iff a).mp (h ▸ List.getElem_mem hk))
  constructor
  · intros; trivial
  · intro m i x h
    obtain ⟨hk, e, rfl⟩ := nth_elemsVal hwf hne h
    show (v.elemAt i).map m = _
    rw [e]; rfl
  · intro m i x y h _
    obtain ⟨hk, e, _⟩ := nth_elemsVal hwf hne h
    refine ⟨m.write v.cells[i.toNat] x, ?_, ?_, ?_⟩
    · show (v.elemAt i).map _ = _
      rw [e]; rfl
    · rw [elemsVal_eq, elemsVal_eq, Prog.setNth]; exact map_write_getElem _ hnd m _ hk x
    · intro a ha; exact Mem.write_other _ _ (himg _ hk a ha)
  · intro m i j x y hi hj
    obtain ⟨hik, ei, _⟩ := nth_elemsVal hwf hne hi
    obtain ⟨hjk, ej, rfl⟩ := nth_elemsVal hwf hne hj
    refine ⟨m.write v.cells[i.toNat] (m v.cells[j.toNat]), ?_, ?_, ?_⟩
    · show (match v.elemAt i, v.elemAt j with | some a, some b => some (m.write a (m b)) | _, _ => none) = _
      rw [ei, ej]
    · rw [elemsVal_eq, elemsVal_eq, Prog.setNth]; exact map_write_getElem _ hnd m _ hik _
    · intro a ha; exact Mem.write_other _ _ (himg _ hik a ha)
  · intro m i j x y hi hj
    obtain ⟨hik, ei, rfl⟩ := nth_elemsVal hwf hne hi
    obtain ⟨hjk, ej, rfl⟩ := nth_elemsVal hwf hne hj
    refine ⟨(m.write v.cells[i.toNat] (m v.cells[j.toNat])).write v.cells[j.toNat] (m v.cells[i.toNat]), ?_, ?_, ?_⟩
    · show (match v.elemAt i, v.elemAt j with
        | some a, some b => some ((m.write a (m b)).write b (m a)) | _, _ => none) = _
      rw [ei, ej]
    · rw [elemsVal_eq, elemsVal_eq, Prog.setNth, Prog.setNth, map_write_getElem _ hnd _ _ hjk,
        map_write_getElem _ hnd _ _ hik]
    · intro a ha
      rw [Mem.write_other _ _ (himg _ hjk a ha), Mem.write_other _ _ (himg _ hik a ha)]

end Multi
