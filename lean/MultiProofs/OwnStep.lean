/-
  MultiProofs.OwnStep — histories: the operations of C04 / C06 on a pool, as the model executes them (`step`) and as the
  documentation describes them on values (`specStep`); `step_refines`: one step commutes with abstraction and keeps the
  pool invariant.
-/
import MultiProofs.OwnPool
import MultiProofs.OwnReext
import MultiProofs.OwnViewAssign
import MultiProofs.OwnRows

namespace Multi
namespace Own
variable {α : Type}

/-- operations on whole arrays of a pool (slot names are natural numbers) -/
inductive VOp (α : Type) where
  | dflt (k D : Nat)                                  -- `array<T, D> A;`
  | exts (k : Nat) (es : List Ext)                    -- `array<T, D> A(extensions);`
  | fill (k : Nat) (es : List Ext) (v : α)            -- `array<T, D> A(extensions, v);`
  | copy (k src : Nat)                                -- `array A(B);` also `+B`, and `B` of another element type
  | range (k : Nat) (count : Int) (inner : List Ext) (vals : List α)   -- `array A(first, last);`
  | move (k src : Nat)                                -- `array A(std::move(B));`
  | massign (k src : Nat)                             -- `A = std::move(B);`
  | cassign (k src : Nat)                             -- `A = B;`
  | swap (j k : Nat)                                  -- `A.swap(B)` / `swap(A, B)`
  | clear (k : Nat)                                   -- `A.clear()`, `A = {}`
  | reshape (k : Nat) (es : List Ext)                 -- `A.reshape(extensions)`
  | assignf (k : Nat) (es : List Ext) (v : α)         -- `A.assign(extensions, v)`
  | reextm (k : Nat) (es : List Ext)                  -- `std::move(A).reextent(extensions)`
  | reextSame (k : Nat) (es : List Ext) (fill : Option α)  -- `A.reextent(x [, v])` with x the current extensions
  | destroy (k : Nat)                                 -- end of lifetime
  | write (k : Nat) (idx : List Int) (v : α)          -- `A[i][j]… = v`
  | reext (k : Nat) (es : List Ext) (fill : Option α) -- `A.reextent(x)` (`fill = none`) / `A.reextent(x, v)` (`fill = some v`)
  | vctor (k src : Nat) (ops : List Op)               -- `array A(view)`, `+view`, `view.decay()`; view = chain of C01 operations on `src`
  | vassign (k src : Nat) (ops : List Op)             -- `A = view`, `operator=(const_subarray const&)`
  | rassign (k src : Nat) (ops : List Op)             -- `A = view`, `operator=(Range&&)` (reshape shortcut)
  | convassign (k src : Nat)                          -- `A = B` with `B` an array of another element type
  | stdswap (j k : Nat)                               -- `std::swap(A, B)`: move-construct a temporary, two move assignments
  | assignr (k : Nat) (count : Int) (inner : List Ext) (vals : List α)   -- `A.assign(first, last)`
  | ilassign (k : Nat) (count : Int) (inner : List Ext) (vals : List α)  -- `A = {…}` (nested initializer lists)
  | il (k : Nat) (count : Int) (inner : List Ext) (vals : List α)        -- `array A = {…}` / `array A{…}`

/-- the model's step -/
def step (cfg : Cfg α) (p : Pool α) : VOp α → Pool α
  | .dflt k D => let r := defaultCtor cfg p.heap D; (p.withHeap r.1).set k (some r.2)
  | .exts k es => let r := extsCtor cfg p.heap es; (p.withHeap r.1).set k (some r.2)
  | .fill k es v => let r := fillCtor p.heap es v; (p.withHeap r.1).set k (some r.2)
  | .copy k src =>
    match p.arrs src with
    | some b => let r := copyCtor p.heap b; (p.withHeap r.1).set k (some r.2)
    | none => p
  | .range k c inner vals => let r := rangeCtor p.heap c inner vals; (p.withHeap r.1).set k (some r.2)
  | .move k src =>
    match p.arrs src with
    | some b => let r := moveCtor b; (p.set src (some r.2)).set k (some r.1)
    | none => p
  | .massign k src =>
    match p.arrs k, p.arrs src with
    | some a, some b =>
      if k = src then p
      else let r := moveAssign p.heap a b; ((p.withHeap r.1).set src (some r.2.2)).set k (some r.2.1)
    | _, _ => p
  | .cassign k src =>
    match p.arrs k, p.arrs src with
    | some a, some b =>
      if k = src then p
      else let r := copyAssign p.heap a b; (p.withHeap r.1).set k (some r.2)
    | _, _ => p
  | .swap j k =>
    match p.arrs j, p.arrs k with
    | some a, some b => let r := Own.swap a b; (p.set j (some r.1)).set k (some r.2)
    | _, _ => p
  | .clear k =>
    match p.arrs k with
    | some a => let r := clear p.heap a; (p.withHeap r.1).set k (some r.2)
    | none => p
  | .reshape k es =>
    match p.arrs k with
    | some a => let r := reshape p.heap a es; (p.withHeap r.1).set k (some r.2)
    | none => p
  | .assignf k es v =>
    match p.arrs k with
    | some a => let r := assignFill p.heap a es v; (p.withHeap r.1).set k (some r.2)
    | none => p
  | .reextm k es =>
    match p.arrs k with
    | some a => let r := reextentMoved cfg p.heap a es; (p.withHeap r.1).set k (some r.2)
    | none => p
  | .reextSame k es fill =>
    match p.arrs k with
    | some a => let r := reextent cfg p.heap a es fill; (p.withHeap r.1).set k (some r.2)
    | none => p
  | .destroy k =>
    match p.arrs k with
    | some a => (p.withHeap (dtor p.heap a)).set k none
    | none => p
  | .write k idx v =>
    match p.arrs k with
    | some a => (p.withHeap (writeAt p.heap a idx v)).set k (some a)
    | none => p
  | .reext k es fill =>
    match p.arrs k with
    | some a => let r := reextent cfg p.heap a es fill; (p.withHeap r.1).set k (some r.2)
    | none => p
  | .vctor k src ops =>
    match p.arrs src with
    | some b => let r := viewCtor p.heap b.base (applyOps b.view ops); (p.withHeap r.1).set k (some r.2)
    | none => p
  | .vassign k src ops =>
    match p.arrs k, p.arrs src with
    | some a, some b => let r := viewAssign p.heap a b.base (applyOps b.view ops); (p.withHeap r.1).set k (some r.2)
    | _, _ => p
  | .rassign k src ops =>
    match p.arrs k, p.arrs src with
    | some a, some b => let r := rangeAssign p.heap a b.base (applyOps b.view ops); (p.withHeap r.1).set k (some r.2)
    | _, _ => p
  | .convassign k src =>
    match p.arrs k, p.arrs src with
    | some a, some b => let r := convAssign p.heap a b; (p.withHeap r.1).set k (some r.2)
    | _, _ => p
  | .stdswap j k =>
    match p.arrs j, p.arrs k with
    | some a, some b => let r := stdSwap p.heap a b; ((p.withHeap r.1).set j (some r.2.1)).set k (some r.2.2)
    | _, _ => p
  | .assignr k c inner vals =>
    match p.arrs k with
    | some a => let r := assignRange p.heap a c inner vals; (p.withHeap r.1).set k (some r.2)
    | none => p
  | .ilassign k c inner vals =>
    match p.arrs k with
    | some a => let r := ilAssign p.heap a c inner vals; (p.withHeap r.1).set k (some r.2)
    | none => p
  | .il k c inner vals => let r := ilCtor cfg p.heap c inner vals; (p.withHeap r.1).set k (some r.2)

/-- the documented effect on values -/
def specStep (cfg : Cfg α) (ap : Nat → Option (AbsArr α)) : VOp α → (Nat → Option (AbsArr α))
  | .dflt k D => upd ap k (some (emptyVal D))
  | .exts k es => upd ap k (some ⟨collapse es, List.replicate (nElems es).toNat (initCell cfg)⟩)
  | .fill k es v => upd ap k (some ⟨collapse es, List.replicate (nElems es).toNat (some v)⟩)
  | .copy k src => upd ap k (ap src)
  | .range k c inner vals => upd ap k (some ⟨collapse (rangeExts c inner), vals.map some⟩)
  | .move k src => upd (upd ap src ((ap src).map fun x => emptyVal x.exts.length)) k (ap src)
  | .massign k src => if k = src then ap else upd (upd ap src ((ap src).map fun x => emptyVal x.exts.length)) k (ap src)
  | .cassign k src => upd ap k (ap src)
  | .swap j k => upd (upd ap j (ap k)) k (ap j)
  | .clear k => upd ap k ((ap k).map fun x => emptyVal x.exts.length)
  | .reshape k es => upd ap k ((ap k).map fun x => ⟨collapse es, x.elems⟩)
  | .assignf k es v => upd ap k (some ⟨collapse es, List.replicate (nElems es).toNat (some v)⟩)
  | .reextm k es => upd ap k ((ap k).map fun x =>
      if Exts.eqv es x.exts = true then x else ⟨collapse es, List.replicate (nElems es).toNat (initCell cfg)⟩)
  | .reextSame _ _ _ => ap
  | .destroy k => upd ap k none
  | .write k idx v => upd ap k ((ap k).map fun x => ⟨x.exts, x.elems.set (rowMajor x.exts idx).toNat (some v)⟩)
  | .reext k es fill => upd ap k ((ap k).map fun x => if Exts.eqv es x.exts = true then x else reextVal cfg x es fill)
  | .vctor k src ops => upd ap k ((ap src).map fun x => viewVal x ops)
  | .vassign k src ops => upd ap k ((ap src).map fun x => viewVal x ops)
  | .rassign k src ops => upd ap k ((ap src).map fun x => viewVal x ops)
  | .convassign k src => upd ap k (ap src)
  | .stdswap j k => upd (upd ap j (ap k)) k (ap j)
  | .assignr k c inner vals => upd ap k ((ap k).map fun x => listVal x c inner vals)
  | .ilassign k c inner vals => upd ap k ((ap k).map fun x => if c = 0 then emptyVal x.exts.length else listVal x c inner vals)
  | .il k c inner vals => upd ap k (some ⟨collapse (rangeExts c inner), vals.map some⟩)

/-- the domain of each operation: slots live / free as the operation needs, extensions well formed, reshape to the same count -/
def VOp.InDom (p : Pool α) : VOp α → Prop
  | .dflt k D => p.arrs k = none ∧ D ≠ 0
  | .exts k es => p.arrs k = none ∧ ExtsOK es
  | .fill k es _ => p.arrs k = none ∧ ExtsOK es
  | .copy k src => p.arrs k = none ∧ ∃ b, p.arrs src = some b
  | .range k c inner vals => p.arrs k = none ∧ ExtsOK (rangeExts c inner) ∧ (vals.length : Int) = nElems (rangeExts c inner)
  | .move k src => p.arrs k = none ∧ ∃ b, p.arrs src = some b ∧ b.dim ≠ 0
  | .massign k src => ∃ a b, p.arrs k = some a ∧ p.arrs src = some b ∧ a.dim ≠ 0 ∧ b.dim ≠ 0
  | .cassign k src => ∃ a b, p.arrs k = some a ∧ p.arrs src = some b ∧ a.dim ≠ 0
  | .swap j k => ∃ a b, p.arrs j = some a ∧ p.arrs k = some b
  | .clear k => ∃ a, p.arrs k = some a ∧ a.dim ≠ 0
  | .reshape k es => ∃ a, p.arrs k = some a ∧ ExtsOK es ∧ nElems es = a.numElements
  | .assignf k es _ => ∃ a, p.arrs k = some a ∧ a.dim ≠ 0 ∧ ExtsOK es
  | .reextm k es => ∃ a, p.arrs k = some a ∧ ExtsOK es
  | .reextSame k es _ => ∃ a, p.arrs k = some a ∧ Exts.eqv es a.exts = true
  | .destroy k => ∃ a, p.arrs k = some a
  | .write k idx _ => ∃ a, p.arrs k = some a ∧ InBox a.exts idx
  | .reext k es _ => ∃ a, p.arrs k = some a ∧ ExtsOK es ∧ es.length = a.dim ∧ a.dim ≠ 0
  | .vctor k src ops => p.arrs k = none ∧ ∃ b, p.arrs src = some b ∧ OpsInDom b.view ops ∧ (applyOps b.view ops).lay ≠ []
  | .vassign k src ops => k ≠ src ∧ ∃ a b, p.arrs k = some a ∧ p.arrs src = some b ∧ a.dim ≠ 0 ∧ OpsInDom b.view ops ∧
      (applyOps b.view ops).lay ≠ [] ∧ (applyOps b.view ops).exts.length = a.dim
  | .rassign k src ops => k ≠ src ∧ ∃ a b, p.arrs k = some a ∧ p.arrs src = some b ∧ a.dim ≠ 0 ∧ OpsInDom b.view ops ∧
      (applyOps b.view ops).lay ≠ [] ∧ (applyOps b.view ops).exts.length = a.dim
  | .convassign k src => k ≠ src ∧ ∃ a b, p.arrs k = some a ∧ p.arrs src = some b ∧ a.dim ≠ 0 ∧ b.dim = a.dim
  | .stdswap j k => j ≠ k ∧ ∃ a b, p.arrs j = some a ∧ p.arrs k = some b ∧ a.dim ≠ 0 ∧ b.dim ≠ 0
  | .assignr k c inner vals => ∃ a, p.arrs k = some a ∧ a.dim ≠ 0 ∧ ExtsOK (rangeExts c inner) ∧ (vals.length : Int) = nElems (rangeExts c inner)
  | .ilassign k c inner vals => ∃ a, p.arrs k = some a ∧ a.dim ≠ 0 ∧ ExtsOK (rangeExts c inner) ∧ (vals.length : Int) = nElems (rangeExts c inner)
  | .il k c inner vals => p.arrs k = none ∧ ExtsOK (rangeExts c inner) ∧ (vals.length : Int) = nElems (rangeExts c inner)

/-- `std::swap` on two arrays of dimensionality ≥ 1: no heap effect; the first gets the second's block and layout, the second the first's
    block with the layout rebuilt from its extensions -/
theorem stdSwap_eq (h : Heap α) (a b : Arr) (hDa : a.dim ≠ 0) (hDb : b.dim ≠ 0) : stdSwap h a b = (h, b, (moveCtor a).1) := by
  have hd3 : (⟨a.base, Layout.ofExts a.exts⟩ : Arr).dim ≠ 0 := by
    show (Layout.ofExts a.exts).length ≠ 0; rw [ofExts_length, exts_length]; exact hDa
  simp only [stdSwap, moveAssign, clear, dtor, moveCtor, deallocate_empty _ _ hDa, deallocate_empty _ _ hDb]
  rw [deallocate_empty _ _ hd3]

/-- **one step commutes with abstraction and keeps the invariant** -/
theorem step_refines (cfg : Cfg α) (p : Pool α) (hi : Inv p) (op : VOp α) (hd : op.InDom p) :
    Inv (step cfg p op) ∧ absPool (step cfg p op) = specStep cfg (absPool p) op := by
  cases op with
  | dflt k D =>
    obtain ⟨-, hD⟩ := hd
    exact hi.replace k (defaultCtor_outcome cfg p.heap hD) (noOwner p k)
  | exts k es =>
    obtain ⟨-, hes⟩ := hd
    exact hi.replace k (extsCtor_outcome cfg p.heap hes) (noOwner p k)
  | fill k es v =>
    obtain ⟨-, hes⟩ := hd
    exact hi.replace k (fillCtor_outcome p.heap hes v) (noOwner p k)
  | copy k src =>
    obtain ⟨-, b, hb⟩ := hd
    have := hi.replace k (copyCtor_outcome p.heap (hi.valid src b hb)) (noOwner p k)
    simp only [step, hb, specStep, absPool_some hb]
    exact this
  | range k c inner vals =>
    obtain ⟨-, hes, hlen⟩ := hd
    exact hi.replace k (rangeCtor_outcome p.heap c inner vals hes hlen) (noOwner p k)
  | move k src =>
    obtain ⟨hk, b, hb, hD⟩ := hd
    have hm := (Outcome.same (hi.valid src b hb)).moved
    have := hi.transfer (fun e => nomatch (e ▸ hk).symm.trans hb) hb hD (Frame.refl _ _) rfl rfl (noOwner p k) none
      (b' := (moveCtor b).1) rfl (hi.valid src b hb).rebuild.2 hm.valid hm.abs
    simp only [step, hb, specStep, absPool_some hb, Option.map_some]
    exact this
  | massign k src =>
    obtain ⟨a, b, ha, hb, -, hDb⟩ := hd
    by_cases hks : k = src
    · subst hks
      simp only [step, ha, specStep, if_pos]
      exact ⟨hi, trivial⟩
    · have hva := hi.valid k a ha
      obtain ⟨f1, u1, s1, _⟩ := deallocate_frame hva
      obtain ⟨v2, c2⟩ := hva.after_dealloc (hi.valid src b hb) (hi.sep k src a b hks ha hb)
      have := hi.transfer hks hb hDb f1 u1 s1 (ownOf ha) b.base (b' := b) rfl rfl v2 (absArr_eq rfl c2)
      simp only [step, ha, hb, hks, if_false, moveAssign, clear, specStep, absPool_some hb, Option.map_some]
      exact this
  | cassign k src =>
    obtain ⟨a, b, ha, hb, -⟩ := hd
    by_cases hks : k = src
    · subst hks
      simp only [step, ha, specStep, if_pos, upd_self]
      exact ⟨hi, trivial⟩
    · have := hi.replace k (copyAssign_outcome (hi.valid k a ha) (hi.valid src b hb)
        (hi.sep k src a b hks ha hb)) (ownOf ha)
      simp only [step, ha, hb, specStep, hks, if_false, absPool_some hb]
      exact this
  | swap j k =>
    obtain ⟨a, b, ha, hb⟩ := hd
    simp only [step, ha, hb, specStep, Own.swap]
    exact hi.swapSlots ha hb rfl rfl
  | clear k =>
    obtain ⟨a, ha, hD⟩ := hd
    exact hi.onSlot ha (clear_outcome · hD)
  | reshape k es =>
    obtain ⟨a, ha, hes, hn⟩ := hd
    exact hi.onSlot ha (reshape_outcome · hes hn)
  | assignf k es v =>
    obtain ⟨a, ha, -, hes⟩ := hd
    have := hi.replace k (assignFill_outcome (hi.valid k a ha) hes v) (ownOf ha)
    simp only [step, ha, specStep]
    exact this
  | reextm k es =>
    obtain ⟨a, ha, hes⟩ := hd
    exact hi.onSlot ha (reextentMoved_outcome cfg · hes)
  | reextSame k es fill =>
    obtain ⟨a, ha, hx⟩ := hd
    simp only [step, ha, specStep, reextent_same cfg p.heap a es fill hx]
    rw [Pool.set_same p ha]
    exact ⟨hi, rfl⟩
  | destroy k =>
    obtain ⟨a, ha⟩ := hd
    have := hi.remove ha
    simp only [step, ha, specStep]
    exact this
  | write k idx v =>
    obtain ⟨a, ha, hidx⟩ := hd
    exact hi.onSlot ha (f := fun a => (writeAt p.heap a idx v, a)) (writeAt_outcome · hidx v)
  | vctor k src ops =>
    obtain ⟨-, b, hb, hdom, -⟩ := hd
    obtain ⟨wf, hin, hsrc, hval⟩ := view_of_array (hi.valid src b hb) ops hdom
    have := hi.replace k (hval ▸ viewCtor_outcome p.heap b.base _ _ wf (fun hn => (hsrc hn).2) hin) (noOwner p k)
    simp only [step, hb, specStep, absPool_some hb, Option.map_some]
    exact this
  | vassign k src ops =>
    obtain ⟨hks, a, b, ha, hb, hD, hdom, hne, -⟩ := hd
    obtain ⟨wf, hin, hsrc, hval⟩ := view_of_array (hi.valid src b hb) ops hdom
    have := hi.replace k (hval ▸ viewAssign_outcome (hi.valid k a ha) hD b.base _ _ wf hne (fun hn => (hsrc hn).2)
      (fun hn hna => hi.sep k src a b hks ha hb hna (hsrc hn).1) hin) (ownOf ha)
    simp only [step, ha, hb, specStep, absPool_some hb, Option.map_some]
    exact this
  | rassign k src ops =>
    obtain ⟨hks, a, b, ha, hb, hD, hdom, hne, hdim⟩ := hd
    obtain ⟨wf, hin, hsrc, hval⟩ := view_of_array (hi.valid src b hb) ops hdom
    have := hi.replace k (hval ▸ rangeAssign_outcome (hi.valid k a ha) hD b.base _ _ wf hne hdim (fun hn => (hsrc hn).2)
      (fun hn hna => hi.sep k src a b hks ha hb hna (hsrc hn).1) hin) (ownOf ha)
    simp only [step, ha, hb, specStep, absPool_some hb, Option.map_some]
    exact this
  | convassign k src =>
    obtain ⟨hks, a, b, ha, hb, hD, hdim⟩ := hd
    have := hi.replace k (convAssign_outcome (hi.valid k a ha) (hi.valid src b hb) hD hdim
      (hi.sep k src a b hks ha hb)) (ownOf ha)
    simp only [step, ha, hb, specStep, absPool_some hb]
    exact this
  | stdswap j k =>
    obtain ⟨hjk, a, b, ha, hb, hDa, hDb⟩ := hd
    -- the first array is rebuilt from its extensions (same block, same value), then the two exchange slots
    obtain ⟨i1, a1⟩ := hi.replace j (Outcome.same (hi.valid j a ha)).moved (ownOf ha)
    rw [← absPool_some ha, upd_self] at a1
    have := i1.swapSlots (q := step cfg p (.stdswap j k)) (upd_same _ _ _) ((upd_other _ _ (Ne.symm hjk)).trans hb) (by
      simp only [step, ha, hb, stdSwap_eq p.heap a b hDa hDb]; rfl) (by
      simp only [step, ha, hb, stdSwap_eq p.heap a b hDa hDb, Pool.set_arrs, upd_upd])
    rw [a1] at this
    exact this
  | assignr k c inner vals =>
    obtain ⟨a, ha, hD, hes, hlen⟩ := hd
    exact hi.onSlot ha (assignRange_outcome · hD c inner vals hes hlen)
  | ilassign k c inner vals =>
    obtain ⟨a, ha, hD, hes, hlen⟩ := hd
    exact hi.onSlot ha (ilAssign_outcome · hD c inner vals hes hlen)
  | il k c inner vals =>
    obtain ⟨-, hes, hlen⟩ := hd
    exact hi.replace k (ilCtor_outcome cfg p.heap c inner vals hes hlen) (noOwner p k)
  | reext k es fill =>
    obtain ⟨a, ha, hes, hlen, hD⟩ := hd
    exact hi.onSlot ha (reextent_outcome cfg · hes hlen hD fill)

/-- a step whose documented effect is an update at slot `k`, read slot by slot -/
theorem step_slot (cfg : Cfg α) (p : Pool α) (hi : Inv p) (op : VOp α) (hd : op.InDom p) {f : Nat → Option (AbsArr α)} {k : Nat}
    {v : Option (AbsArr α)} (hs : specStep cfg (absPool p) op = upd f k v) :
    Inv (step cfg p op) ∧ absPool (step cfg p op) k = v ∧ ∀ j, j ≠ k → absPool (step cfg p op) j = f j := by
  obtain ⟨i1, a1⟩ := step_refines cfg p hi op hd
  rw [hs] at a1
  exact ⟨i1, a1 ▸ upd_same f k v, fun j hj => a1 ▸ upd_other f v hj⟩

def run (cfg : Cfg α) (p : Pool α) : List (VOp α) → Pool α
  | [] => p
  | op :: ops => run cfg (step cfg p op) ops

def specRun (cfg : Cfg α) (ap : Nat → Option (AbsArr α)) : List (VOp α) → (Nat → Option (AbsArr α))
  | [] => ap
  | op :: ops => specRun cfg (specStep cfg ap op) ops

/-- every operation of the history is in its domain when it is executed -/
def InDomAll (cfg : Cfg α) (p : Pool α) : List (VOp α) → Prop
  | [] => True
  | op :: ops => op.InDom p ∧ InDomAll cfg (step cfg p op) ops

def Pool.empty : Pool α := ⟨{}, fun _ => none⟩

theorem Inv.empty : Inv (Pool.empty : Pool α) :=
  ⟨rfl, rfl, fun _ _ h => by simp [Pool.empty] at h, fun _ _ _ _ _ h => by simp [Pool.empty] at h⟩

end Own
end Multi
