/-
  MultiProofs.FftSpec — what C15 says: the logical DFT of a view along a subset of its dimensions, and the index
  bookkeeping lemmas that relate it to the guru call built by `fftw_plan_dft`.
-/
import MultiProofs.C01
import MultiModel.Fftw

namespace Multi

/-- the elements of `l` at the positions where the mask is `true` -/
def pick {α : Type} : List Bool → List α → List α
  | true :: m, x :: xs => x :: pick m xs
  | false :: m, _ :: xs => pick m xs
  | _, _ => []

/-- ... where it is `false` -/
def pickN {α : Type} : List Bool → List α → List α
  | true :: m, _ :: xs => pickN m xs
  | false :: m, x :: xs => x :: pickN m xs
  | _, _ => []

/-- `r` with its masked positions replaced, in order, by the entries of `n` -/
def subst : List Bool → List Int → List Int → List Int
  | true :: m, _ :: r, n :: ns => n :: subst m r ns
  | false :: m, x :: r, ns => x :: subst m r ns
  | _, _, _ => []

/-- interleave masked entries `j` and unmasked entries `b` -/
def merge : List Bool → List Int → List Int → List Int
  | true :: m, j :: js, bs => j :: merge m js bs
  | false :: m, js, b :: bs => b :: merge m js bs
  | _, _, _ => []

/-- index tuple relative to the first index of each extension, and back -/
def relIdx : List Ext → List Int → List Int
  | e :: es, i :: is => (i - e.first) :: relIdx es is
  | _, _ => []
def absIdx : List Ext → List Int → List Int
  | e :: es, r :: rs => (e.first + r) :: absIdx es rs
  | _, _ => []

section
variable {R : Type} [Add R] [Mul R] [OfNat R 0] [OfNat R 1]

/-- **the logical DFT of a view.**  Element `idx` of the transform of `vin` along the masked dimensions, with sign `s`:
    `Σ_{n ∈ Π_{d masked} [0, N_d)} vin[idx with masked positions := first_d + n_d] · Π_{d masked} ω(N_d, s·(idx_d − first_d)·n_d)`;
    unmasked dimensions are independent batches. -/
def logicalDft (ω : Int → Int → R) (mask : List Bool) (s : Int) (vin : View) (mem : Int → R) (idx : List Int) : R :=
  let es := vin.exts
  let Ns := pick mask (es.map Ext.size)
  let r := relIdx es idx
  sumBox Ns fun n => mem (vin.addr (absIdx es (subst mask r n))) * twiddle ω s Ns (pick mask r) n

omit [Mul R] [OfNat R 1] in
theorem sumTo_congr {f g : Nat → R} (n : Nat) (h : ∀ k, k < n → f k = g k) : sumTo n f = sumTo n g := by
  induction n with
  | zero => rfl
  | succ n ih => simp only [sumTo]; rw [ih (fun k hk => h k (by omega)), h n (by omega)]

omit [Mul R] [OfNat R 1] in
/-- `sumBox` only evaluates its argument on tuples in range -/
theorem sumBox_congr (Ns : List Int) {f g : List Int → R} (h : ∀ n, InRange Ns n → f n = g n) :
    sumBox Ns f = sumBox Ns g := by
  induction Ns generalizing f g with
  | nil => exact h [] trivial
  | cons N Ns ih =>
    refine sumTo_congr _ fun k hk => ih fun n hn => h _ ⟨⟨Int.natCast_nonneg k, ?_⟩, hn⟩
    simp only [Int.ofNat_eq_natCast]; omega
end

theorem inRange_length {Ns js : List Int} (h : InRange Ns js) : js.length = Ns.length := by
  induction Ns generalizing js with
  | nil => cases js with
    | nil => rfl
    | cons _ _ => exact h.elim
  | cons N Ns ih => cases js with
    | nil => exact h.elim
    | cons j js => exact congrArg (· + 1) (ih h.2)

theorem partition_pick {β γ : Type} (g : β → γ) (zs : List (Bool × β)) :
    (zs.partition (·.1)).1.map (fun z => g z.2) = pick (zs.map (·.1)) (zs.map fun z => g z.2) ∧
    (zs.partition (·.1)).2.map (fun z => g z.2) = pickN (zs.map (·.1)) (zs.map fun z => g z.2) := by
  induction zs with
  | nil => exact ⟨rfl, rfl⟩
  | cons z zs ih =>
    obtain ⟨w, x⟩ := z
    simp only [List.partition_eq_filter_filter] at ih ⊢
    cases w
    · exact ⟨ih.1, congrArg (g x :: ·) ih.2⟩
    · exact ⟨congrArg (g x :: ·) ih.1, ih.2⟩

theorem planZip_unzip (ws : List Bool) (ns is os : List Int) (h1 : ns.length = ws.length) (h2 : is.length = ws.length)
    (h3 : os.length = ws.length) :
    (planZip ws ns is os).map (·.1) = ws ∧ (planZip ws ns is os).map (·.2.n) = ns ∧
    (planZip ws ns is os).map (·.2.is) = is ∧ (planZip ws ns is os).map (·.2.os) = os := by
  induction ws generalizing ns is os with
  | nil =>
    obtain rfl := List.eq_nil_of_length_eq_zero h1
    obtain rfl := List.eq_nil_of_length_eq_zero h2
    obtain rfl := List.eq_nil_of_length_eq_zero h3
    exact ⟨rfl, rfl, rfl, rfl⟩
  | cons w ws ih =>
    cases ns with
    | nil => exact nomatch h1
    | cons n ns =>
    cases is with
    | nil => exact nomatch h2
    | cons i is =>
    cases os with
    | nil => exact nomatch h3
    | cons o os =>
      obtain ⟨a, b, c, d⟩ := ih ns is os (Nat.succ.inj h1) (Nat.succ.inj h2) (Nat.succ.inj h3)
      exact ⟨congrArg (w :: ·) a, congrArg (n :: ·) b, congrArg (i :: ·) c, congrArg (o :: ·) d⟩

theorem planZip_partition (ws : List Bool) (ns is os : List Int) (h1 : ns.length = ws.length) (h2 : is.length = ws.length)
    (h3 : os.length = ws.length) :
    let p := (planZip ws ns is os).partition (·.1)
    p.1.map (·.2.n) = pick ws ns ∧ p.1.map (·.2.is) = pick ws is ∧ p.1.map (·.2.os) = pick ws os ∧
    p.2.map (·.2.n) = pickN ws ns ∧ p.2.map (·.2.is) = pickN ws is ∧ p.2.map (·.2.os) = pickN ws os := by
  obtain ⟨zw, zn, zi, zo⟩ := planZip_unzip ws ns is os h1 h2 h3
  have pn := partition_pick IoDim.n (planZip ws ns is os)
  have pi := partition_pick IoDim.is (planZip ws ns is os)
  have po := partition_pick IoDim.os (planZip ws ns is os)
  rw [zw] at pn pi po
  rw [zn] at pn
  rw [zi] at pi
  rw [zo] at po
  exact ⟨pn.1, pi.1, po.1, pn.2, pi.2, po.2⟩

theorem dot_split (m : List Bool) (s t : List Int) (h1 : s.length = m.length) (h2 : t.length = m.length) :
    dot s t = dot (pick m s) (pick m t) + dot (pickN m s) (pickN m t) := by
  induction m generalizing s t with
  | nil => obtain rfl := List.eq_nil_of_length_eq_zero h1; rfl
  | cons w m ih =>
    cases s with
    | nil => exact nomatch h1
    | cons a s =>
    cases t with
    | nil => exact nomatch h2
    | cons b t =>
      have := ih s t (Nat.succ.inj h1) (Nat.succ.inj h2)
      cases w
      · show a * b + dot s t = _ + (a * b + _)
        rw [this, Int.add_left_comm]
        rfl
      · show a * b + dot s t = a * b + _ + _
        rw [this, Int.add_assoc]
        rfl

/-! `pick m` and `pickN m` split a tuple into its masked and unmasked parts; `merge m` is the inverse, and `subst` is
    "split, replace the masked part, merge". -/

theorem merge_pick (m : List Bool) (r : List Int) (hr : r.length = m.length) : merge m (pick m r) (pickN m r) = r := by
  induction m generalizing r with
  | nil => exact (List.eq_nil_of_length_eq_zero hr).symm
  | cons w m ih =>
    cases r with
    | nil => exact nomatch hr
    | cons x r => cases w <;> exact congrArg (x :: ·) (ih r (Nat.succ.inj hr))

theorem subst_eq_merge (m : List Bool) (r n : List Int) (hr : r.length = m.length) :
    subst m r n = merge m n (pickN m r) := by
  induction m generalizing r n with
  | nil => rfl
  | cons w m ih =>
    cases r with
    | nil => exact nomatch hr
    | cons x r =>
      cases w
      · exact congrArg (x :: ·) (ih r n (Nat.succ.inj hr))
      · cases n with
        | nil => rfl
        | cons y n => exact congrArg (y :: ·) (ih r n (Nat.succ.inj hr))

theorem inRange_pick (m : List Bool) (Ns r : List Int) (hm : m.length = Ns.length) (h : InRange Ns r) :
    InRange (pick m Ns) (pick m r) ∧ InRange (pickN m Ns) (pickN m r) := by
  induction m generalizing Ns r with
  | nil => exact ⟨trivial, trivial⟩
  | cons w m ih =>
    cases Ns with
    | nil => exact nomatch hm
    | cons N Ns =>
    cases r with
    | nil => exact h.elim
    | cons x r =>
      obtain ⟨i1, i2⟩ := ih Ns r (Nat.succ.inj hm) h.2
      cases w
      · exact ⟨i1, h.1, i2⟩
      · exact ⟨⟨h.1, i1⟩, i2⟩

theorem merge_spec (m : List Bool) (Ns j b : List Int) (hm : m.length = Ns.length)
    (hj : InRange (pick m Ns) j) (hb : InRange (pickN m Ns) b) :
    InRange Ns (merge m j b) ∧ pick m (merge m j b) = j ∧ pickN m (merge m j b) = b := by
  induction m generalizing Ns j b with
  | nil =>
    obtain rfl := List.eq_nil_of_length_eq_zero hm.symm
    cases j with
    | cons _ _ => exact hj.elim
    | nil => cases b with
      | cons _ _ => exact hb.elim
      | nil => exact ⟨trivial, rfl, rfl⟩
  | cons w m ih =>
    cases Ns with
    | nil => exact nomatch hm
    | cons N Ns =>
      cases w
      · cases b with
        | nil => exact hb.elim
        | cons y b =>
          obtain ⟨i1, i2, i3⟩ := ih Ns j b (Nat.succ.inj hm) hj hb.2
          exact ⟨⟨hb.1, i1⟩, i2, congrArg (y :: ·) i3⟩
      · cases j with
        | nil => exact hj.elim
        | cons y j =>
          obtain ⟨i1, i2, i3⟩ := ih Ns j b (Nat.succ.inj hm) hj.2 hb
          exact ⟨⟨hj.1, i1⟩, congrArg (y :: ·) i2, i3⟩

theorem subst_spec (m : List Bool) (Ns r n : List Int) (hm : m.length = Ns.length) (hr : InRange Ns r)
    (hn : InRange (pick m Ns) n) :
    InRange Ns (subst m r n) ∧ pick m (subst m r n) = n ∧ pickN m (subst m r n) = pickN m r := by
  rw [subst_eq_merge m r n (by rw [inRange_length hr, hm])]
  exact merge_spec m Ns n _ hm hn (inRange_pick m Ns r hm hr).2

theorem subst_subst (m : List Bool) (Ns r k n : List Int) (hm : m.length = Ns.length) (hr : InRange Ns r)
    (hk : InRange (pick m Ns) k) : subst m (subst m r k) n = subst m r n := by
  obtain ⟨s1, _, s3⟩ := subst_spec m Ns r k hm hr hk
  rw [subst_eq_merge m _ n (by rw [inRange_length s1, hm]), s3, subst_eq_merge m r n (by rw [inRange_length hr, hm])]

theorem subst_pick (m : List Bool) (r : List Int) (hr : r.length = m.length) : subst m r (pick m r) = r := by
  rw [subst_eq_merge m r _ hr, merge_pick m r hr]

theorem rel_abs (es : List Ext) (r : List Int) (h : r.length = es.length) : relIdx es (absIdx es r) = r := by
  induction es generalizing r with
  | nil => exact (List.eq_nil_of_length_eq_zero h).symm
  | cons e es ih => cases r with
    | nil => exact nomatch h
    | cons x r =>
      show (e.first + x - e.first) :: relIdx es (absIdx es r) = x :: r
      rw [ih r (Nat.succ.inj h), Int.add_comm, Int.add_sub_cancel]

theorem abs_rel (es : List Ext) (idx : List Int) (h : idx.length = es.length) : absIdx es (relIdx es idx) = idx := by
  induction es generalizing idx with
  | nil => exact (List.eq_nil_of_length_eq_zero h).symm
  | cons e es ih => cases idx with
    | nil => exact nomatch h
    | cons x r =>
      show (e.first + (x - e.first)) :: absIdx es (relIdx es r) = x :: r
      rw [ih r (Nat.succ.inj h), Int.add_comm, Int.sub_add_cancel]

theorem inBox_rel (es : List Ext) (idx : List Int) (h : InBox es idx) : InRange (es.map Ext.size) (relIdx es idx) := by
  induction es generalizing idx with
  | nil => cases idx with
    | nil => trivial
    | cons _ _ => exact h.elim
  | cons e es ih => cases idx with
    | nil => exact h.elim
    | cons x r =>
      have := h.1
      exact ⟨by simp only [Ext.size]; omega, ih r h.2⟩

theorem inRange_abs (es : List Ext) (r : List Int) (h : InRange (es.map Ext.size) r) : InBox es (absIdx es r) := by
  induction es generalizing r with
  | nil => cases r with
    | nil => trivial
    | cons _ _ => exact h.elim
  | cons e es ih => cases r with
    | nil => exact h.elim
    | cons x r =>
      have := h.1
      exact ⟨by simp only [Ext.size] at this; omega, ih r h.2⟩

theorem off_abs (l : Layout) (hwf : l.WF) (r : List Int) (h : InRange (l.exts.map Ext.size) r) :
    l.off (absIdx l.exts r) = dot l.strides r := by
  induction l generalizing r with
  | nil => cases r <;> rfl
  | cons d l ih =>
    cases r with
    | nil => exact h.elim
    | cons x r =>
      obtain ⟨⟨h0, h1⟩, h2⟩ := h
      simp only [Layout.exts, Layout.strides, List.map_cons, absIdx, Layout.off, dot]
      rw [show Layout.off l (absIdx (l.map Dim.ext) r) = dot (l.map Dim.stride) r from ih hwf.tail r h2]
      have hne : d.nelems ≠ 0 := fun hz => by rw [Dim.ext_of_nelems_zero hz] at h1; simp only [Ext.size] at h1; omega
      rw [hwf.head.offset_eq hne, Int.add_mul, Int.add_comm (_ * d.stride), Int.add_sub_cancel, Int.mul_comm]

theorem addr_abs (m : List Bool) (v : View) (hwf : v.lay.WF) (hm : m.length = v.lay.length) (r : List Int)
    (h : InRange (v.exts.map Ext.size) r) :
    v.addr (absIdx v.exts r) =
      v.base + dot (pick m v.lay.strides) (pick m r) + dot (pickN m v.lay.strides) (pickN m r) := by
  have hr : r.length = m.length := by rw [inRange_length h, hm]; simp [View.exts, Layout.exts]
  rw [addr_eq, View.exts, off_abs v.lay hwf r h,
    dot_split m v.lay.strides r (by rw [hm]; exact List.length_map _) hr, Int.add_assoc]

end Multi
