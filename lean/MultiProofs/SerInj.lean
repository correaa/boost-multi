/-
  MultiProofs.SerInj — the elements of a view reachable from an array (C01's operation set, no broadcasting) are
  pairwise distinct storage locations: the canonical address list has no duplicates.  From `Multi.reachable_injective`.
-/
import MultiProofs.SerWalk
import MultiProofs.Inj

namespace Multi

theorem reachable_wf (base : Int) (es : List Ext) (hes : ∀ e ∈ es, e.first ≤ e.last)
    (v : View) (den : Den) (h : Reach ⟨base, Layout.ofExts es⟩ v den) : v.lay.WF :=
  (C01.reachable_denotes ⟨base, Layout.ofExts es⟩ v den (C01.root_denotes es hes).1 h).1

theorem reachable_canonAddrs_nodup (base : Int) (es : List Ext) (hes : ∀ e ∈ es, e.first ≤ e.last)
    (v : View) (den : Den) (h : Reach ⟨base, Layout.ofExts es⟩ v den) : (canonAddrs v).Nodup := by
  have r := C01.reachable_denotes ⟨base, Layout.ofExts es⟩ v den (C01.root_denotes es hes).1 h
  refine List.pairwise_map.mpr ((boxIndices_nodup _).imp_of_mem fun ha hb hne hab => hne ?_)
  rw [mem_boxIndices, r.2.1] at ha hb
  exact reachable_injective base es hes v den h _ _ ha hb hab

end Multi
