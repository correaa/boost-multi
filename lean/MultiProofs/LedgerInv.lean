/-
  MultiProofs.LedgerInv — the invariants of C08 / C10 over the heap and the pool of MultiModel.Ledger, and how they
  move under the state changes the operations perform (a slot replaced, a block returned, a block appended).

  Ownership is counted: `owners A b` is the number of live arrays of the pool with `num_elements() > 0` whose `base_`
  points to block `b`.  `Inv` says: every such array points to an outstanding block of exactly its size whose cells are
  all alive; every outstanding block has exactly one owner; every returned block has no live cell.
-/
import MultiModel.Ledger

namespace Multi
namespace Ledger

/-- `std::is_trivially_default_constructible<T>` implies `std::is_trivially_destructible<T>` (the trait tests the
    expression `T()` including its destruction) -/
def Cfg.WF (c : Cfg) : Prop := c.trivCtor = true → c.trivDtor = true

/-- an owned block: as many cells as requested and (unless the element type is trivial) all of them alive -/
def CellsOK (c : Cfg) (blk : Block) : Prop :=
  blk.cells.length = blk.size ∧ (c.trivCtor = true ∨ ∀ x ∈ blk.cells, x = Cell.live)

/-- a returned block: no live object was left in it (trivially destructible types need no destructor call) -/
def FreedOK (c : Cfg) (blk : Block) : Prop :=
  blk.cells.length = blk.size ∧ (c.trivDtor = true ∨ ∀ x ∈ blk.cells, x = Cell.raw)

/-- the array in a slot claims block `b`: it is alive, non-empty, and its `base_` is `b` -/
def ownsB (b : Nat) (o : Option Arr) : Bool :=
  match o with
  | some a => decide (0 < a.n) && a.base == some b
  | none => false

def owners (A : List (Option Arr)) (b : Nat) : Nat := A.countP (ownsB b)

theorem ownsB_some {b : Nat} {a : Arr} : ownsB b (some a) = true ↔ 0 < a.n ∧ a.base = some b := by
  simp [ownsB]

/-- C08: the resource invariant -/
structure Inv (c : Cfg) (B : List Block) (A : List (Option Arr)) : Prop where
  /-- every non-empty live array points to an outstanding block of its size, all cells alive -/
  valid : ∀ (i : Nat) (a : Arr), A[i]? = some (some a) → 0 < a.n →
    ∃ (b : Nat) (blk : Block), a.base = some b ∧ B[b]? = some blk ∧ blk.freed = false ∧ blk.size = a.n ∧ CellsOK c blk
  /-- every outstanding block is owned by exactly one live array -/
  owned : ∀ (b : Nat) (blk : Block), B[b]? = some blk → blk.freed = false → owners A b = 1
  /-- a returned block holds no live object -/
  freed : ∀ (b : Nat) (blk : Block), B[b]? = some blk → blk.freed = true → FreedOK c blk

/-- C10: storage stays with the allocator that produced it -/
structure InvA (c : Cfg) (B : List Block) (A : List (Option Arr)) : Prop where
  /-- the allocator stored in the owner of a block is equal to the one that allocated it -/
  ownerEq : ∀ (i : Nat) (a : Arr) (b : Nat) (blk : Block), A[i]? = some (some a) → 0 < a.n → a.base = some b → B[b]? = some blk → blk.freed = false →
    c.eqv blk.alloc a.alloc = true
  /-- every block was released through an allocator equal to the one that produced it -/
  freedEq : ∀ (b : Nat) (blk : Block), B[b]? = some blk → blk.freed = true → c.eqv blk.freedBy blk.alloc = true

theorem eqv_refl (c : Cfg) (a : AllocId) : c.eqv a a = true := by simp [Cfg.eqv]

theorem eqv_of_iae {c : Cfg} (h : c.iae = true) (a b : AllocId) : c.eqv a b = true := by
  unfold Cfg.eqv; rw [h]; rfl

theorem eqv_ite {c : Cfg} {p : Bool} {a b : AllocId} (h : p = false → c.eqv a b = true) :
    c.eqv a (if p then a else b) = true := by
  cases p
  · exact h rfl
  · exact eqv_refl c a

theorem eqv_trans {c : Cfg} {a b d : AllocId} (h1 : c.eqv a b = true) (h2 : c.eqv b d = true) : c.eqv a d = true := by
  unfold Cfg.eqv at *
  cases hi : c.iae with
  | true => simp
  | false =>
    rw [hi] at h1 h2
    simp only [Bool.false_or, beq_iff_eq] at h1 h2 ⊢
    exact h1.trans h2

theorem eqv_symm {c : Cfg} {a b : AllocId} (h : c.eqv a b = true) : c.eqv b a = true := by
  unfold Cfg.eqv at *
  cases hi : c.iae with
  | true => simp
  | false =>
    rw [hi] at h
    simp only [Bool.false_or, beq_iff_eq] at h ⊢
    exact h.symm

theorem getElem?_append_one {α : Type} {B : List α} {nb x : α} {b : Nat} (h : (B ++ [nb])[b]? = some x) :
    (b < B.length ∧ B[b]? = some x) ∨ (b = B.length ∧ x = nb) := by
  by_cases hb : b < B.length
  · rw [List.getElem?_append_left hb] at h
    exact Or.inl ⟨hb, h⟩
  · have hb2 : b < (B ++ [nb]).length := (List.getElem?_eq_some_iff.mp h).1
    obtain rfl : b = B.length := by simp at hb2; omega
    rw [List.getElem?_concat_length] at h
    exact Or.inr ⟨rfl, (Option.some.inj h).symm⟩

theorem getElem?_set_one {α : Type} {B : List α} {new x : α} {b k : Nat} (h : (B.set b new)[k]? = some x) :
    (k = b ∧ x = new) ∨ (k ≠ b ∧ B[k]? = some x) := by
  rw [List.getElem?_set] at h
  split at h
  · rename_i hbk
    split at h
    · exact Or.inl ⟨hbk.symm, (Option.some.inj h).symm⟩
    · cases h
  · rename_i hbk
    exact Or.inr ⟨fun e => hbk e.symm, h⟩

theorem forall_set {P : Arr → Prop} {A : List (Option Arr)} {i : Nat} {new : Option Arr}
    (h : ∀ (k : Nat) a, k ≠ i → A[k]? = some (some a) → P a) (hnew : ∀ a, new = some a → P a) :
    ∀ (k : Nat) a, (A.set i new)[k]? = some (some a) → P a := by
  intro k a hk
  rcases getElem?_set_one hk with ⟨_, e⟩ | ⟨hne, hk'⟩
  · exact hnew a e.symm
  · exact h k a hne hk'

theorem ownsB_zero {o : Option Arr} (h : ∀ a, o = some a → a.n = 0) (b : Nat) : ownsB b o = false := by
  cases o with
  | none => rfl
  | some a => simp [ownsB, h a rfl]

theorem ownsB_none (b : Nat) : ownsB b none = false := rfl

theorem ownsB_empty (b : Nat) {x : Arr} (h : x.n = 0) : ownsB b (some x) = false := by simp [ownsB, h]

theorem ownsB_congr {a a' : Arr} (hbase : a'.base = a.base) (hn : a'.n = a.n) (b : Nat) :
    ownsB b (some a') = ownsB b (some a) := by simp [ownsB, hbase, hn]

theorem ownsB_other {a : Arr} {b b2 : Nat} (hb : a.base = some b) (hne : b2 ≠ b) : ownsB b2 (some a) = false := by
  simp only [ownsB, hb, Bool.and_eq_false_imp, beq_eq_false_iff_ne, ne_eq, Option.some.injEq]
  exact fun _ e => hne e.symm

theorem owners_set {A : List (Option Arr)} {i : Nat} {old new : Option Arr} (b : Nat) (h : A[i]? = some old) :
    owners (A.set i new) b + (if ownsB b old then 1 else 0) = owners A b + (if ownsB b new then 1 else 0) := by
  obtain ⟨hi, rfl⟩ := List.getElem?_eq_some_iff.mp h
  unfold owners
  rw [List.countP_set hi]
  have hpos : (if ownsB b A[i] = true then 1 else 0) ≤ List.countP (ownsB b) A := by
    split
    · exact List.countP_pos_iff.mpr ⟨_, List.getElem_mem hi, ‹_›⟩
    · exact Nat.zero_le _
  rw [Nat.add_right_comm, Nat.sub_add_cancel hpos]

theorem owners_set_same {A : List (Option Arr)} {i : Nat} {old new : Option Arr} {b : Nat} (h : A[i]? = some old)
    (hb : ownsB b new = ownsB b old) : owners (A.set i new) b = owners A b := by
  have := owners_set (new := new) b h
  rw [hb] at this
  exact Nat.add_right_cancel this

theorem owners_set_swap {A : List (Option Arr)} {i j : Nat} {oi oj ni nj : Option Arr} {b : Nat} (hij : i ≠ j)
    (hi : A[i]? = some oi) (hj : A[j]? = some oj) (h1 : ownsB b ni = ownsB b oj) (h2 : ownsB b nj = ownsB b oi) :
    owners ((A.set i ni).set j nj) b = owners A b := by
  have e1 := owners_set (new := ni) b hi
  have e2 := owners_set (A := A.set i ni) (new := nj) b ((List.getElem?_set_ne hij).trans hj)
  rw [h1] at e1
  rw [h2] at e2
  exact Nat.add_right_cancel (e2.trans e1)

theorem owners_eq_zero {A : List (Option Arr)} {b : Nat} (h : ∀ (k : Nat) (o : Option Arr), A[k]? = some o → ownsB b o = false) :
    owners A b = 0 := by
  apply List.countP_eq_zero.mpr
  intro o ho
  obtain ⟨k, hk⟩ := List.mem_iff_getElem?.mp ho
  simp [h k o hk]

/-- what `Inv.valid` says of one array -/
def HasBlock (c : Cfg) (B : List Block) (x : Arr) : Prop :=
  0 < x.n → ∃ b blk, x.base = some b ∧ B[b]? = some blk ∧ blk.freed = false ∧ blk.size = x.n ∧ CellsOK c blk

theorem HasBlock.append {c : Cfg} {B : List Block} {x : Arr} (h : HasBlock c B x) (nb : Block) : HasBlock c (B ++ [nb]) x := by
  intro hn
  obtain ⟨b, blk, hb, hB, r⟩ := h hn
  exact ⟨b, blk, hb, (List.getElem?_append_left (List.getElem?_eq_some_iff.mp hB).1).trans hB, r⟩

theorem HasBlock.set_other {c : Cfg} {B : List Block} {x : Arr} {b : Nat} (h : HasBlock c B x) (hne : x.base ≠ some b)
    (blk' : Block) : HasBlock c (B.set b blk') x := by
  intro hn
  obtain ⟨b2, blk, hb, hB, r⟩ := h hn
  exact ⟨b2, blk, hb, (List.getElem?_set_ne (by rintro rfl; exact hne hb)).trans hB, r⟩

theorem replicate_none {p i : Nat} {a : Arr} : (List.replicate p (none : Option Arr))[i]? ≠ some (some a) := by
  rw [List.getElem?_replicate]
  split <;> simp

namespace Inv

variable {c : Cfg} {B : List Block} {A : List (Option Arr)}

theorem block_of (h : Inv c B A) {i : Nat} {a : Arr} (hi : A[i]? = some (some a)) (hn : 0 < a.n) :
    ∃ (b : Nat) (blk : Block), a.base = some b ∧ B[b]? = some blk ∧ blk.freed = false ∧ blk.size = a.n ∧ CellsOK c blk :=
  h.valid i a hi hn

theorem other_block_ne (h : Inv c B A) {i k b : Nat} {a x : Arr} {blk : Block} (hik : k ≠ i)
    (hi : A[i]? = some (some a)) (hn : 0 < a.n) (hb : a.base = some b)
    (hB : B[b]? = some blk) (hf : blk.freed = false)
    (hk : A[k]? = some (some x)) (hxn : 0 < x.n) : x.base ≠ some b := by
  intro hxb
  have h1 := owners_set (new := none) b hk
  have h2 := owners_set (A := A.set k none) (new := none) b ((List.getElem?_set_ne hik).trans hi)
  rw [ownsB_some.mpr ⟨hxn, hxb⟩] at h1
  rw [ownsB_some.mpr ⟨hn, hb⟩] at h2
  have h3 := h.owned b blk hB hf
  simp [ownsB] at h1 h2
  omega

theorem owners_fresh (h : Inv c B A) : owners A B.length = 0 := by
  apply owners_eq_zero
  intro k o hk
  cases o with
  | none => rfl
  | some x =>
    by_cases hxn : 0 < x.n
    · obtain ⟨b, blk, hb, hB, -⟩ := h.valid k x hk hxn
      exact ownsB_other hb (Nat.ne_of_gt (List.getElem?_eq_some_iff.mp hB).1)
    · simp [ownsB, hxn]

theorem init (c : Cfg) (p : Nat) : Inv c [] (List.replicate p none) where
  valid := fun i a hi => absurd hi replicate_none
  owned := by intro b blk hb; simp at hb
  freed := by intro b blk hb; simp at hb

theorem set_nonowning (h : Inv c B A) {i : Nat} {old new : Option Arr} (hi : A[i]? = some old)
    (hold : ∀ b, ownsB b old = false) (hnew : ∀ a, new = some a → a.n = 0) : Inv c B (A.set i new) where
  valid := forall_set (fun k a _ hk => h.valid k a hk) (fun a e hn => absurd (hnew a e) (Nat.ne_of_gt hn))
  owned := fun b blk hB hf => (owners_set_same hi (by rw [hold b, ownsB_zero hnew])).trans (h.owned b blk hB hf)
  freed := h.freed

theorem install (h : Inv c B A) {i : Nat} {old : Option Arr} {a : Arr} {blk : Block} (hi : A[i]? = some old)
    (hold : ∀ b, ownsB b old = false) (hn : 0 < a.n) (hbase : a.base = some B.length)
    (hfr : blk.freed = false) (hsz : blk.size = a.n) (hcells : CellsOK c blk) :
    Inv c (B ++ [blk]) (A.set i (some a)) where
  valid := forall_set (fun k x _ hk => HasBlock.append (h.valid k x hk) blk)
    (by rintro _ ⟨⟩ _; exact ⟨B.length, blk, hbase, List.getElem?_concat_length, hfr, hsz, hcells⟩)
  owned := by
    intro b bk hB hf
    rcases getElem?_append_one hB with ⟨hb, hB'⟩ | ⟨rfl, _⟩
    · exact (owners_set_same hi (by rw [hold b, ownsB_other hbase (Nat.ne_of_lt hb)])).trans (h.owned b bk hB' hf)
    · have h1 := owners_set (new := some a) B.length hi
      rw [hold, ownsB_some.mpr ⟨hn, hbase⟩, h.owners_fresh] at h1
      simpa using h1
  freed := by
    intro b bk hB hf
    rcases getElem?_append_one hB with ⟨_, hB'⟩ | ⟨_, rfl⟩
    · exact h.freed b bk hB' hf
    · rw [hfr] at hf; cases hf

theorem release (h : Inv c B A) {i b : Nat} {a : Arr} {new : Option Arr} {blk blk' : Block}
    (hi : A[i]? = some (some a)) (hn : 0 < a.n) (hb : a.base = some b) (hB : B[b]? = some blk) (hf : blk.freed = false)
    (hfr' : blk'.freed = true) (hok' : FreedOK c blk') (hnew : ∀ x, new = some x → x.n = 0) :
    Inv c (B.set b blk') (A.set i new) where
  valid := forall_set
    (fun k x hik hk hxn => HasBlock.set_other (h.valid k x hk) (h.other_block_ne hik hi hn hb hB hf hk hxn) blk' hxn)
    (fun x e hxn => absurd (hnew x e) (Nat.ne_of_gt hxn))
  owned := by
    intro b2 bk hB2 hf2
    rcases getElem?_set_one hB2 with ⟨_, rfl⟩ | ⟨hne, hB2'⟩
    · rw [hfr'] at hf2; cases hf2
    · exact (owners_set_same hi (by rw [ownsB_zero hnew, ownsB_other hb hne])).trans (h.owned b2 bk hB2' hf2)
  freed := by
    intro b2 bk hB2 hf2
    rcases getElem?_set_one hB2 with ⟨_, rfl⟩ | ⟨_, hB2'⟩
    · exact hok'
    · exact h.freed b2 bk hB2' hf2

/-- slot `i` changes what it stores but keeps pointing to the same block with the same size (allocator replaced, layout
    reshaped) -/
theorem relabel (h : Inv c B A) {i : Nat} {a a' : Arr} (hi : A[i]? = some (some a))
    (hbase : a'.base = a.base) (hn : a'.n = a.n) : Inv c B (A.set i (some a')) where
  valid := forall_set (fun k x _ hk => h.valid k x hk) (by rintro _ ⟨⟩; rw [hbase, hn]; exact h.valid i a hi)
  owned := fun b blk hB hf => (owners_set_same hi (ownsB_congr hbase hn b)).trans (h.owned b blk hB hf)
  freed := h.freed

/-- the cells of a block change without changing its status (assignment over live objects; writes to trivial elements) -/
theorem set_cells (h : Inv c B A) {b : Nat} {blk : Block} {cs : List Cell} (hB : B[b]? = some blk)
    (hok : blk.freed = false → CellsOK c { blk with cells := cs })
    (hfo : blk.freed = true → FreedOK c { blk with cells := cs }) :
    Inv c (B.set b { blk with cells := cs }) A where
  valid := by
    intro k x hk hxn
    obtain ⟨b2, bk, hb2, hB2, hf2, hs2, hc2⟩ := h.valid k x hk hxn
    by_cases hbb : b2 = b
    · subst hbb
      obtain rfl : blk = bk := Option.some.inj (hB.symm.trans hB2)
      exact ⟨b2, _, hb2, List.getElem?_set_self (List.getElem?_eq_some_iff.mp hB).1, hf2, hs2, hok hf2⟩
    · exact ⟨b2, bk, hb2, (List.getElem?_set_ne (Ne.symm hbb)).trans hB2, hf2, hs2, hc2⟩
  owned := by
    intro b2 bk hB2 hf2
    rcases getElem?_set_one hB2 with ⟨rfl, rfl⟩ | ⟨_, hB2'⟩
    · exact h.owned b2 blk hB hf2
    · exact h.owned b2 bk hB2' hf2
  freed := by
    intro b2 bk hB2 hf2
    rcases getElem?_set_one hB2 with ⟨_, rfl⟩ | ⟨_, hB2'⟩
    · exact hfo hf2
    · exact h.freed b2 bk hB2' hf2

/-- slot `j` hands its storage to slot `i`, which owned nothing; `j` is left empty (move construction / move assignment) -/
theorem transfer (h : Inv c B A) {i j : Nat} {old : Option Arr} {y x' y' : Arr} (hij : i ≠ j)
    (hi : A[i]? = some old) (hold : ∀ b, ownsB b old = false) (hj : A[j]? = some (some y))
    (hxb : x'.base = y.base) (hxn : x'.n = y.n) (hyn : y'.n = 0) :
    Inv c B ((A.set i (some x')).set j (some y')) where
  valid := forall_set
    (fun _ _ _ => forall_set (fun k x _ hk => h.valid k x hk) (by rintro _ ⟨⟩; rw [hxb, hxn]; exact h.valid j y hj) _ _)
    (by rintro _ ⟨⟩ hn; exact absurd hyn (Nat.ne_of_gt hn))
  owned := fun b blk hB hf =>
    (owners_set_swap hij hi hj (ownsB_congr hxb hxn b) (by rw [hold, ownsB_zero (by rintro _ ⟨⟩; exact hyn)])).trans
      (h.owned b blk hB hf)
  freed := h.freed

/-- two slots exchange their storage (swap) -/
theorem exchange (h : Inv c B A) {i j : Nat} {x y x' y' : Arr} (hij : i ≠ j)
    (hi : A[i]? = some (some x)) (hj : A[j]? = some (some y))
    (hxb : x'.base = y.base) (hxn : x'.n = y.n) (hyb : y'.base = x.base) (hyn : y'.n = x.n) :
    Inv c B ((A.set i (some x')).set j (some y')) where
  valid := forall_set
    (fun _ _ _ => forall_set (fun k z _ hk => h.valid k z hk) (by rintro _ ⟨⟩; rw [hxb, hxn]; exact h.valid j y hj) _ _)
    (by rintro _ ⟨⟩; rw [hyb, hyn]; exact h.valid i x hi)
  owned := fun b blk hB hf =>
    (owners_set_swap hij hi hj (ownsB_congr hxb hxn b) (ownsB_congr hyb hyn b)).trans (h.owned b blk hB hf)
  freed := h.freed

/-- a returned block is appended to the heap: nothing points to it (a constructor that cleaned up after itself) -/
theorem append_freed (h : Inv c B A) {blk : Block} (hfr : blk.freed = true) (hok : FreedOK c blk) :
    Inv c (B ++ [blk]) A where
  valid := fun k x hk => HasBlock.append (h.valid k x hk) blk
  owned := by
    intro b bk hB hf
    rcases getElem?_append_one hB with ⟨_, hB'⟩ | ⟨_, rfl⟩
    · exact h.owned b bk hB' hf
    · rw [hfr] at hf; cases hf
  freed := by
    intro b bk hB hf
    rcases getElem?_append_one hB with ⟨_, hB'⟩ | ⟨_, rfl⟩
    · exact h.freed b bk hB' hf
    · exact hok

end Inv

theorem HasBlock.lookup_append {c : Cfg} {B : List Block} {x : Arr} {nb blk : Block} {b : Nat} (h : HasBlock c B x)
    (hn : 0 < x.n) (hb : x.base = some b) (hB : (B ++ [nb])[b]? = some blk) : B[b]? = some blk := by
  obtain ⟨b2, bk, hb2, hB2, -⟩ := h hn
  obtain rfl : b2 = b := Option.some.inj (hb2.symm.trans hb)
  rwa [List.getElem?_append_left (List.getElem?_eq_some_iff.mp hB2).1] at hB

namespace InvA

variable {c : Cfg} {B : List Block} {A : List (Option Arr)}

theorem init (c : Cfg) (p : Nat) : InvA c [] (List.replicate p none) where
  ownerEq := by intro i a b blk _ _ _ hB; simp at hB
  freedEq := by intro b blk hB; simp at hB

theorem set_slot (h : InvA c B A) {i : Nat} {new : Option Arr}
    (hnew : ∀ a, new = some a → ∀ (b : Nat) (blk : Block), 0 < a.n → a.base = some b → B[b]? = some blk → blk.freed = false →
      c.eqv blk.alloc a.alloc = true) : InvA c B (A.set i new) where
  ownerEq := fun k a b blk hk =>
    forall_set (fun k a _ hk => h.ownerEq k a b blk hk) (fun a e => hnew a e b blk) k a hk
  freedEq := h.freedEq

theorem set_nonowning (h : InvA c B A) {i : Nat} {new : Option Arr} (hnew : ∀ a, new = some a → a.n = 0) :
    InvA c B (A.set i new) :=
  h.set_slot (fun a e _ _ hn => absurd (hnew a e) (Nat.ne_of_gt hn))

theorem append_block (h : InvA c B A) (hI : Inv c B A) {blk : Block}
    (heq : blk.freed = true → c.eqv blk.freedBy blk.alloc = true) : InvA c (B ++ [blk]) A where
  ownerEq := fun k x b bk hk hn hb hB hf =>
    h.ownerEq k x b bk hk hn hb (HasBlock.lookup_append (hI.valid k x hk) hn hb hB) hf
  freedEq := by
    intro b bk hB hf
    rcases getElem?_append_one hB with ⟨_, hB'⟩ | ⟨_, rfl⟩
    · exact h.freedEq b bk hB' hf
    · exact heq hf

theorem install (h : InvA c B A) (hI : Inv c B A) {i : Nat} {a : Arr} {blk : Block}
    (hbase : a.base = some B.length) (hfr : blk.freed = false) (heq : c.eqv blk.alloc a.alloc = true) :
    InvA c (B ++ [blk]) (A.set i (some a)) := by
  refine (h.append_block hI (fun e => by rw [hfr] at e; cases e)).set_slot ?_
  rintro _ ⟨⟩ b bk _ hb hB _
  obtain rfl : B.length = b := Option.some.inj (hbase.symm.trans hb)
  rw [List.getElem?_concat_length] at hB
  exact Option.some.inj hB ▸ heq

theorem release (h : InvA c B A) (hI : Inv c B A) {i b : Nat} {a : Arr} {new : Option Arr} {blk blk' : Block}
    (hi : A[i]? = some (some a)) (hn : 0 < a.n) (hb : a.base = some b) (hB : B[b]? = some blk) (hf : blk.freed = false)
    (hfr' : blk'.freed = true) (heq : c.eqv blk'.freedBy blk'.alloc = true) (hnew : ∀ x, new = some x → x.n = 0) :
    InvA c (B.set b blk') (A.set i new) where
  ownerEq := by
    intro k x b2 bk hk
    refine forall_set (P := fun x => 0 < x.n → x.base = some b2 → (B.set b blk')[b2]? = some bk → bk.freed = false →
      c.eqv bk.alloc x.alloc = true) ?_ (fun x e hxn => absurd (hnew x e) (Nat.ne_of_gt hxn)) k x hk
    intro k x hik hk hxn hb2 hB2 hf2
    have hne : b ≠ b2 := by rintro rfl; exact hI.other_block_ne hik hi hn hb hB hf hk hxn hb2
    exact h.ownerEq k x b2 bk hk hxn hb2 ((List.getElem?_set_ne hne).symm.trans hB2) hf2
  freedEq := by
    intro b2 bk hB2 hf2
    rcases getElem?_set_one hB2 with ⟨_, rfl⟩ | ⟨_, hB2'⟩
    · exact heq
    · exact h.freedEq b2 bk hB2' hf2

theorem relabel (h : InvA c B A) {i : Nat} {a a' : Arr} (hi : A[i]? = some (some a))
    (hbase : a'.base = a.base) (hn : a'.n = a.n) (heq : c.eqv a.alloc a'.alloc = true) : InvA c B (A.set i (some a')) := by
  refine h.set_slot ?_
  rintro _ ⟨⟩ b blk hn' hb hB hf
  exact eqv_trans (h.ownerEq i a b blk hi (hn ▸ hn') (hbase ▸ hb) hB hf) heq

theorem set_cells (h : InvA c B A) {b : Nat} {blk : Block} {cs : List Cell} (hB : B[b]? = some blk) :
    InvA c (B.set b { blk with cells := cs }) A where
  ownerEq := by
    intro k x b2 bk hk hxn hb2 hB2 hf2
    rcases getElem?_set_one hB2 with ⟨rfl, rfl⟩ | ⟨_, hB2'⟩
    · exact h.ownerEq k x b2 blk hk hxn hb2 hB hf2
    · exact h.ownerEq k x b2 bk hk hxn hb2 hB2' hf2
  freedEq := by
    intro b2 bk hB2 hf2
    rcases getElem?_set_one hB2 with ⟨rfl, rfl⟩ | ⟨_, hB2'⟩
    · exact h.freedEq b2 blk hB hf2
    · exact h.freedEq b2 bk hB2' hf2

theorem transfer (h : InvA c B A) {i j : Nat} {y x' y' : Arr} (hij : i ≠ j) (hj : A[j]? = some (some y))
    (hxb : x'.base = y.base) (hxn : x'.n = y.n) (hyn : y'.n = 0)
    (heq : ∀ (b : Nat) (blk : Block), 0 < y.n → y.base = some b → B[b]? = some blk → blk.freed = false → c.eqv blk.alloc x'.alloc = true) :
    InvA c B ((A.set i (some x')).set j (some y')) := by
  refine (h.set_slot ?_).set_slot ?_
  · rintro _ ⟨⟩ b blk hn hb
    exact heq b blk (hxn ▸ hn) (hxb ▸ hb)
  · rintro _ ⟨⟩ _ _ hn
    exact absurd hyn (Nat.ne_of_gt hn)

theorem exchange (h : InvA c B A) {i j : Nat} {x y x' y' : Arr} (hij : i ≠ j)
    (hi : A[i]? = some (some x)) (hj : A[j]? = some (some y))
    (hxb : x'.base = y.base) (hxn : x'.n = y.n) (hyb : y'.base = x.base) (hyn : y'.n = x.n)
    (heqx : ∀ (b : Nat) (blk : Block), 0 < y.n → y.base = some b → B[b]? = some blk → blk.freed = false → c.eqv blk.alloc x'.alloc = true)
    (heqy : ∀ (b : Nat) (blk : Block), 0 < x.n → x.base = some b → B[b]? = some blk → blk.freed = false → c.eqv blk.alloc y'.alloc = true) :
    InvA c B ((A.set i (some x')).set j (some y')) := by
  refine (h.set_slot ?_).set_slot ?_
  · rintro _ ⟨⟩ b blk hn hb
    exact heqx b blk (hxn ▸ hn) (hxb ▸ hb)
  · rintro _ ⟨⟩ b blk hn hb
    exact heqy b blk (hyn ▸ hn) (hyb ▸ hb)

end InvA

end Ledger
end Multi
