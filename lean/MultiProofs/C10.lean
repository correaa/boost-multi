/-
  C10 — Storage stays with the allocator that produced it; propagation follows traits.

  Allocator instances are numbers; `Cfg.eqv` is `operator==` (`is_always_equal` or equal ids);
  POCCA / POCMA / POCS and `select_on_container_copy_construction` are parameters of the model, read where the code reads
  them.  Every block records the instance that allocated it and the instance it was released through.

  `InvA c B A` ("dealloc_by_equal_alloc"): the allocator stored in the array that owns a block is equal to the one that
  allocated it, and every returned block was released through an allocator equal to its producer.

  THE FULL STATEMENT is `AllocSafe c`: along every history (no failures) `InvA` holds.

    * `alloc_safe_fixed`   PROVED IN FULL for the tree with every repair (F6, F7, F8, F9d, F9, F9c): every configuration of the
                           traits, every select_on_container_copy_construction mode, every allocator instance, every history.

  It was FALSE for the code before fixes/F9.patch, F9c.patch, F9d.patch: `finding_F9_…`, `finding_F9c_…`, `finding_F9d_…`, each
  for the tree without that one repair.  For any subset of the repairs, all 16 trait configurations, all
  `select_on_container_copy_construction` modes, all instances and histories (no enumeration):
  `dealloc_by_equal_alloc_partial` / `_history` (operations outside the finding classes of `c` preserve `InvA`),
  `propagation_follows_traits`, `ext_ctor_uses_given`.

  Swap of arrays whose allocators are unequal and do not propagate on swap is excluded by `Op.applicable` (undefined for
  standard containers as well) — stated, not hidden.
-/
import MultiProofs.LedgerLog

namespace Multi
namespace C10
open Ledger

/-- THE FULL STATEMENT of C10 for configuration `c` -/
def AllocSafe (c : Cfg) : Prop :=
  ∀ (p : Nat) (ops : List Op), ∃ s', runHist c ops (initSt p) = some s' ∧ InvAS c s'

/-- one operation outside the finding classes, without failures: the block/allocator pairing survives -/
theorem dealloc_by_equal_alloc_partial (c : Cfg) (hok : c.OK) (op : Op) (s : St) (hG : Good c s) (hA : InvAS c s)
    (hnf : s.fuel = none) (happ : op.applicable c s = true) (hfx : op.fixedIn c = true) (haff : op.affectedA c = false) :
    ∃ s', op.run c s = .ok () s' ∧ Good c s' ∧ InvAS c s' ∧ s'.fuel = none := by
  obtain ⟨s', hr, hG', hf, _, hA', _⟩ := (run_spec c hok op s hG happ hfx).ok hnf
  exact ⟨s', hr, hG', hA' haff hA, hf⟩

/-- by induction: along every history of operations outside the finding classes every block is owned, and was released, by
    an allocator equal to the one that produced it -/
theorem dealloc_by_equal_alloc_history (c : Cfg) (hok : c.OK) (ops : List Op)
    (hops : ∀ op ∈ ops, op.fixedIn c = true ∧ op.affectedA c = false) :
    ∀ (s : St), Good c s → InvAS c s → s.fuel = none → ∃ s', runHist c ops s = some s' ∧ Good c s' ∧ InvAS c s' := by
  intro s hG hA hnf
  obtain ⟨s', hr, hG', hA', _⟩ := runHist_invariant (P := fun s => Good c s ∧ InvAS c s ∧ s.fuel = none) (ops := ops) (by
    intro op ho s hP happ
    obtain ⟨s', hr, h⟩ := dealloc_by_equal_alloc_partial c hok op s hP.1 hP.2.1 hP.2.2 happ (hops op ho).1 (hops op ho).2
    rw [hr]
    exact h) s ⟨hG, hA, hnf⟩
  exact ⟨s', hr, hG', hA'⟩

/-- with `is_always_equal` nothing can go wrong: every history satisfies the full statement (the finding classes are void) -/
theorem alloc_safe_always_equal (c : Cfg) (hiae : c.iae = true) (p : Nat) (ops : List Op) (s' : St)
    (_ : runHist c ops (initSt p) = some s') : InvAS c s' := InvA.of_iae hiae _ _

/-- every repair is in the tree -/
def AllFixed (c : Cfg) : Prop := c.Fixed ∧ c.fx9 = true ∧ c.fx9a = true ∧ c.fx9c = true

theorem not_affected_of_allFixed {c : Cfg} (h : AllFixed c) (op : Op) : op.fixedIn c = true ∧ op.affectedA c = false := by
  obtain ⟨hf, h9, h9a, h9c⟩ := h
  refine ⟨fixedIn_of_fixed hf op, ?_⟩
  cases op <;> simp [Op.affectedA, h9, h9a, h9c]

/-- THE FULL STATEMENT, for the tree with every repair: along every history, over every trait configuration and all
    allocator instances, every block is owned by — and was released through — an allocator equal to the one that produced it -/
theorem alloc_safe_fixed (c : Cfg) (hok : c.OK) (hfix : AllFixed c) : AllocSafe c := by
  intro p ops
  obtain ⟨s', hrun, _, hA⟩ := dealloc_by_equal_alloc_history c hok ops (fun op _ => not_affected_of_allFixed hfix op)
    (initSt p) (good_init c p none) (InvA.init c p) rfl
  exact ⟨s', hrun, hA⟩

theorem allocPost_of_run (c : Cfg) (hok : c.OK) (op : Op) (s s' : St) (hG : Good c s)
    (happ : op.applicable c s = true) (hfx : op.fixedIn c = true) (hrun : op.run c s = .ok () s') : op.allocPost c s s' := by
  have h := run_spec c hok op s hG happ hfx
  unfold OpSpec at h
  rw [hrun] at h
  exact h.2.2.2.2

/-- the allocator an operation leaves in its target, for every operation that completes without a failure:
    * copy assignment: the source's allocator iff POCCA, else unchanged;  move assignment: iff POCMA;  swap: exchanged iff POCS;
    * copy construction: `select_on_container_copy_construction(source allocator)`;  move construction: the source's allocator;
    * reextent (three overloads), reshape, clear, assign(extensions, value), assignment through views: unchanged -/
theorem propagation_follows_traits (c : Cfg) (hok : c.OK) (op : Op) (s s' : St) (hG : Good c s)
    (happ : op.applicable c s = true) (hfx : op.fixedIn c = true) (hrun : op.run c s = .ok () s') :
    match op with
    | .assignCopy i j => allocOf s' i = if c.pocca then allocOf s j else allocOf s i
    | .assignMove i j => allocOf s' i = if c.pocma then allocOf s j else allocOf s i
    | .swap i j => allocOf s' i = (if c.pocs then allocOf s j else allocOf s i) ∧
                   allocOf s' j = (if c.pocs then allocOf s i else allocOf s j)
    | .ctorCopy i j => allocOf s' i = (allocOf s j).map c.select
    | .ctorMove i j => allocOf s' i = allocOf s j
    | .reextent i _ | .reextentFill i _ | .reextentRv i _ | .reshape i _ | .clear i | .assignFill i _ | .viewAssign i _ =>
      allocOf s' i = allocOf s i
    | _ => True := by
  have hp := allocPost_of_run c hok op s s' hG happ hfx hrun
  cases op <;> first | exact trivial | exact hp

/-- allocator-extended constructors (default, sizing, fill, copy, from-view, iterator-range, move) use the supplied allocator -/
theorem ext_ctor_uses_given (c : Cfg) (hok : c.OK) (op : Op) (s s' : St) (hG : Good c s)
    (happ : op.applicable c s = true) (hfx : op.fixedIn c = true) (hrun : op.run c s = .ok () s') :
    match op with
    | .ctorDefault i a | .ctorExt i a _ | .ctorFill i a _ | .ctorCopyA i _ a | .ctorView i _ a _ | .ctorRange i _ a
    | .ctorMoveA i _ a => allocOf s' i = some a
    | _ => True := by
  have hp := allocPost_of_run c hok op s s' hG happ hfx hrun
  cases op <;> first | exact trivial | exact hp

/-- decidable evidence against `InvA`: the run was cut short, or some non-empty live array stores an allocator unequal to the
    one that produced its block, or some block was released through an allocator unequal to its producer -/
def badAlloc (c : Cfg) (r : Option St) : Bool :=
  match r with
  | none => true
  | some s =>
    ((List.range s.arrs.length).any fun i =>
      match s.arrs[i]? with
      | some (some a) =>
        decide (0 < a.n) && (match a.base with
          | some b => (match s.blocks[b]? with
            | some blk => !blk.freed && !c.eqv blk.alloc a.alloc
            | none => false)
          | none => false)
      | _ => false) ||
    ((List.range s.blocks.length).any fun b =>
      match s.blocks[b]? with
      | some blk => blk.freed && !c.eqv blk.freedBy blk.alloc
      | none => false)

theorem badAlloc_not_invA (c : Cfg) (r : Option St) (h : badAlloc c r = true) : ¬ ∃ s', r = some s' ∧ InvAS c s' := by
  intro ⟨s', hr, hA⟩
  subst hr
  simp only [badAlloc, Bool.or_eq_true, List.any_eq_true, List.mem_range] at h
  rcases h with ⟨i, _, hi⟩ | ⟨b, _, hb⟩
  · split at hi
    · rename_i a hAi
      simp only [Bool.and_eq_true, decide_eq_true_eq] at hi
      obtain ⟨hn, h2⟩ := hi
      split at h2
      · rename_i b hbase
        split at h2
        · rename_i blk hB
          simp only [Bool.and_eq_true, Bool.not_eq_true'] at h2
          rw [hA.ownerEq i a b blk hAi hn hbase hB h2.1] at h2
          exact absurd h2.2 (by decide)
        · cases h2
      · cases h2
    · cases hi
  · split at hb
    · rename_i blk hB
      simp only [Bool.and_eq_true, Bool.not_eq_true'] at hb
      rw [hA.freedEq b blk hB hb.1] at hb
      exact absurd hb.2 (by decide)
    · cases hb

/-- the tree with F6, F7, F8, F9d but before fixes/F9.patch and F9c.patch; no propagation, stateful allocators (the traits of
    std::pmr::polymorphic_allocator) -/
def cfgPlain : Cfg := { dim := 1, fx6 := true, fx7 := true, fx8 := true, fx9 := true }
/-- every repair in -/
def cfgFull : Cfg := { cfgPlain with fx9a := true, fx9c := true }
/-- the same with propagate_on_container_copy_assignment -/
def cfgPocca : Cfg := { cfgPlain with pocca := true }
/-- the tree before fixes/F9d -/
def cfgNo9 : Cfg := { cfgPlain with fx9 := false }

/-- F9: `B = std::move(A)` with `A` on allocator 1 and `B` on allocator 2 (unequal, POCMA false): `B` adopts block 0 of
    allocator 1 and will return it through allocator 2 -/
theorem finding_F9_move_assign_adopts_foreign_block : ¬ AllocSafe cfgPlain := fun h =>
  badAlloc_not_invA cfgPlain _ (by decide +kernel) (h 4 [.ctorFill 0 1 [⟨0, 2⟩], .ctorDefault 1 2, .assignMove 1 0])

/-- … and it does: destroying `B` releases the block through allocator 2 -/
theorem finding_F9_wrong_deallocate : ¬ AllocSafe cfgPlain := fun h =>
  badAlloc_not_invA cfgPlain _ (by decide +kernel) (h 4 [.ctorFill 0 1 [⟨0, 2⟩], .ctorDefault 1 2, .assignMove 1 0, .dtor 1])

/-- F9: `array B(std::move(A), alloc2)` with `A` on allocator 1 -/
theorem finding_F9_ext_move_ctor_adopts_foreign_block : ¬ AllocSafe cfgPlain := fun h =>
  badAlloc_not_invA cfgPlain _ (by decide +kernel) (h 4 [.ctorFill 0 1 [⟨0, 2⟩], .ctorMoveA 1 0 2])

/-- F9c: `A = B` with equal extents and POCCA: `A` takes allocator 2 and keeps block 0 of allocator 1 -/
theorem finding_F9c_copy_assign_replaces_allocator_under_block : ¬ AllocSafe cfgPocca := fun h =>
  badAlloc_not_invA cfgPocca _ (by decide +kernel) (h 4 [.ctorFill 0 1 [⟨0, 2⟩], .ctorFill 1 2 [⟨0, 2⟩], .assignCopy 0 1])

/-- F9d (before fixes/F9d): `A = B()` with other extents: the temporary's block comes from `allocator_type{}` = 0 and is
    adopted by `A` on allocator 1 -/
theorem finding_F9d_view_assign_uses_default_allocator : ¬ AllocSafe cfgNo9 := fun h =>
  badAlloc_not_invA cfgNo9 _ (by decide +kernel) (h 4 [.ctorFill 0 1 [⟨0, 2⟩], .ctorFill 1 1 [⟨0, 3⟩], .assignView 0 1 none true])

/-- with fixes/F9d the same history is fine -/
example : badAlloc cfgPlain (runHist cfgPlain [.ctorFill 0 1 [⟨0, 2⟩], .ctorFill 1 1 [⟨0, 3⟩], .assignView 0 1 none true, .dtor 0, .dtor 1]
    (initSt 4)) = false := by decide +kernel

/-- with fixes/F9.patch and F9c.patch the witnesses are harmless: the elements are moved into storage of the target's allocator,
    resp. the block is released through the old allocator and reacquired from the new one -/
example : badAlloc cfgFull (runHist cfgFull [.ctorFill 0 1 [⟨0, 2⟩], .ctorDefault 1 2, .assignMove 1 0, .dtor 1, .dtor 0] (initSt 4)) = false := by
  decide +kernel
example : badAlloc cfgFull (runHist cfgFull [.ctorFill 0 1 [⟨0, 2⟩], .ctorMoveA 1 0 2, .dtor 1, .dtor 0] (initSt 4)) = false := by
  decide +kernel
example : badAlloc { cfgFull with pocca := true } (runHist { cfgFull with pocca := true }
    [.ctorFill 0 1 [⟨0, 2⟩], .ctorFill 1 2 [⟨0, 2⟩], .assignCopy 0 1, .dtor 1, .dtor 0] (initSt 4)) = false := by decide +kernel
/-- the block of the moved-to array comes from ITS allocator (2), the source's block went back to allocator 1 -/
example : ((runHist cfgFull [.ctorFill 0 1 [⟨0, 2⟩], .ctorDefault 1 2, .assignMove 1 0] (initSt 4)).map fun s =>
    s.blocks.map fun b => (b.alloc, b.freed, b.freedBy)) = some [(1, true, 1), (2, false, 0)] := by decide +kernel

example : AllFixed cfgFull := ⟨⟨rfl, rfl, rfl⟩, rfl, rfl, rfl⟩
example : cfgFull.OK := ⟨(by intro h; cases h), (by decide)⟩

example : cfgPlain.OK := ⟨(by intro h; cases h), (by decide)⟩
/-- an unaffected history over two unequal allocators: copy construction, copy assignment, reextent, destruction -/
example : ∀ op ∈ [Op.ctorFill 0 1 [⟨0, 2⟩], .ctorCopyA 1 0 2, .assignCopy 1 0, .reextent 1 [⟨0, 4⟩], .dtor 0, .dtor 1],
    op.fixedIn cfgPlain = true ∧ op.affectedA cfgPlain = false := by decide
example : badAlloc cfgPlain (runHist cfgPlain [.ctorFill 0 1 [⟨0, 2⟩], .ctorCopyA 1 0 2, .assignCopy 1 0, .reextent 1 [⟨0, 4⟩], .dtor 0, .dtor 1]
    (initSt 4)) = false := by decide +kernel

end C10
end Multi
