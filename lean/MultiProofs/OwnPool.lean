/-
  MultiProofs.OwnPool — pools of named arrays: the generic lemma that lifts what an operation does to one array (`Outcome`) to the pool
  (`Inv.setSlot`, `Inv.replace`), and renaming of slots (`Inv.reindex`); from these the four things a step can do to a pool: replace the
  occupant of a slot by the result of an operation on it (`Inv.onSlot`), exchange two slots (`Inv.swapSlots`), hand a block over from one
  slot to another (`Inv.transfer`), end an array (`Inv.remove`).  Helper lemmas for C04 / C06.
-/
import MultiProofs.OwnOps

namespace Multi
namespace Own
variable {α : Type}

def upd {β : Type} (f : Nat → β) (k : Nat) (v : β) : Nat → β := fun j => if j = k then v else f j

@[simp] theorem upd_same {β : Type} (f : Nat → β) (k : Nat) (v : β) : upd f k v k = v := by simp [upd]
theorem upd_other {β : Type} (f : Nat → β) {k j : Nat} (v : β) (h : j ≠ k) : upd f k v j = f j := by simp [upd, h]

theorem upd_self {β : Type} (f : Nat → β) (k : Nat) : upd f k (f k) = f := by
  funext i; by_cases h : i = k <;> simp [upd, h]

theorem upd_upd {β : Type} (f : Nat → β) (k : Nat) (x y : β) : upd (upd f k x) k y = upd f k y := by
  funext i; by_cases h : i = k <;> simp [upd, h]

/-- exchanging the values at `j` and `k` is reading through the transposition of `j` and `k` -/
theorem upd_swap {β : Type} (g : Nat → β) (j k : Nat) :
    upd (upd g j (g k)) k (g j) = fun i => g (if i = k then j else if i = j then k else i) := by
  funext i
  simp only [upd, apply_ite g]

theorem Pool.set_arrs (p : Pool α) (k : Nat) (a : Option Arr) : (p.set k a).arrs = upd p.arrs k a := rfl
@[simp] theorem Pool.set_heap (p : Pool α) (k : Nat) (a : Option Arr) : (p.set k a).heap = p.heap := rfl
@[simp] theorem Pool.withHeap_heap (p : Pool α) (h : Heap α) : (p.withHeap h).heap = h := rfl
@[simp] theorem Pool.withHeap_arrs (p : Pool α) (h : Heap α) : (p.withHeap h).arrs = p.arrs := rfl

theorem Pool.set_same (p : Pool α) {k : Nat} {a : Arr} (hk : p.arrs k = some a) : (p.withHeap p.heap).set k (some a) = p :=
  congrArg (Pool.mk p.heap) ((congrArg (upd p.arrs k) hk.symm).trans (upd_self p.arrs k))

def emptyVal (D : Nat) : AbsArr α := ⟨List.replicate D ⟨0, 0⟩, []⟩

/-- **lifting**: an operation that rebuilds (or ends) the array of slot `k`, touches at most the block the old occupant of `k` owned and
    ends with a block no other array owns keeps the pool invariant, gives slot `k` the new occupant's value and leaves every other
    array's value alone -/
theorem Inv.setSlot {p : Pool α} (hi : Inv p) (k : Nat) {h' : Heap α} {a' : Option Arr} {M : Nat → Prop}
    (hframe : Frame p.heap h' M) (hub : h'.ub = p.heap.ub) (hasrt : h'.asrt = p.heap.asrt)
    (hM : ∀ b, M b → ∃ a, p.arrs k = some a ∧ ownBlock a b)
    (hvalid : ∀ a, a' = some a → Valid h' a)
    (hfree : ∀ a, a' = some a → a.numElements ≠ 0 → ∀ j b, j ≠ k → p.arrs j = some b → b.numElements ≠ 0 → b.base ≠ a.base) :
    Inv ((p.withHeap h').set k a') ∧ absPool ((p.withHeap h').set k a') = upd (absPool p) k (a'.map (absArr h')) := by
  -- every other array is outside the modified set
  have hother : ∀ j b, j ≠ k → p.arrs j = some b → Valid h' b ∧ cellsOf h' b = cellsOf p.heap b := by
    intro j b hjk hb
    apply (hi.valid j b hb).frame hframe
    intro hn x hx hm
    obtain ⟨a, ha, hown⟩ := hM x hm
    exact hi.sep j k b a hjk hb ha hn hown.1 (by rw [hx, hown.2])
  have hk : ((p.withHeap h').set k a').arrs k = a' := upd_same _ _ _
  have hne : ∀ {j}, j ≠ k → ((p.withHeap h').set k a').arrs j = p.arrs j := fun hjk => upd_other _ _ hjk
  constructor
  · refine ⟨hub.trans hi.noub, hasrt.trans hi.noasrt, ?_, ?_⟩
    · intro j b hb
      by_cases hjk : j = k
      · subst hjk; exact hvalid b (hk.symm.trans hb)
      · exact (hother j b hjk ((hne hjk).symm.trans hb)).1
    · intro i j b c hij hb hc hnb hnc
      by_cases hik : i = k
      · subst hik
        have hji : j ≠ i := fun e => hij e.symm
        exact fun e => hfree b (hk.symm.trans hb) hnb j c hji ((hne hji).symm.trans hc) hnc e.symm
      · rw [hne hik] at hb
        by_cases hjk : j = k
        · subst hjk; exact hfree c (hk.symm.trans hc) hnc i b hik hb hnb
        · exact hi.sep i j b c hij hb ((hne hjk).symm.trans hc) hnb hnc
  · funext j
    by_cases hjk : j = k
    · subst hjk; simp only [absPool, hk, upd_same]; rfl
    · simp only [absPool, hne hjk, upd_other _ _ hjk]
      cases hb : p.arrs j with
      | none => rfl
      | some b => exact congrArg some (congrArg (AbsArr.mk b.exts) (hother j b hjk hb).2)

theorem Inv.replace' {p : Pool α} (hi : Inv p) (k : Nat) {h' : Heap α} {a' : Arr} {val : AbsArr α} {M : Nat → Prop}
    (hframe : Frame p.heap h' M) (hub : h'.ub = p.heap.ub) (hasrt : h'.asrt = p.heap.asrt)
    (hvalid : Valid h' a') (habs : absArr h' a' = val)
    (hM : ∀ b, M b → ∃ a, p.arrs k = some a ∧ ownBlock a b)
    (hfree : a'.numElements ≠ 0 → ∀ j b, j ≠ k → p.arrs j = some b → b.numElements ≠ 0 → b.base ≠ a'.base) :
    Inv ((p.withHeap h').set k (some a')) ∧ absPool ((p.withHeap h').set k (some a')) = upd (absPool p) k (some val) :=
  habs ▸ hi.setSlot k hframe hub hasrt hM (fun _ e => Option.some.inj e ▸ hvalid) (fun _ e => Option.some.inj e ▸ hfree)

/-- `Inv.setSlot` for an `Outcome`: the new block is the old own block or a fresh one, hence no other array's -/
theorem Inv.replace {p : Pool α} (hi : Inv p) (k : Nat) {h' : Heap α} {a' : Arr} {val : AbsArr α} {M : Nat → Prop}
    (ho : Outcome p.heap h' M a' val)
    (hM : ∀ b, M b → ∃ a, p.arrs k = some a ∧ ownBlock a b) :
    Inv ((p.withHeap h').set k (some a')) ∧ absPool ((p.withHeap h').set k (some a')) = upd (absPool p) k (some val) := by
  apply hi.replace' k ho.frame ho.ub ho.asrt ho.valid ho.abs hM
  intro hna j b hjk hb hnb he
  rcases (hi.valid j b hb).store with hz | ⟨x, cs, hx, hl, _⟩
  · exact hnb hz
  · rcases ho.own hna x (by rw [← he, hx]) with hm | hfresh
    · obtain ⟨a, ha, hown⟩ := hM x hm
      exact hi.sep j k b a hjk hb ha hnb hown.1 (by rw [hx, hown.2])
    · have := hl.lt; omega

/-- renaming the slots along an injective map changes nothing but the names -/
theorem Inv.reindex {p q : Pool α} (hi : Inv p) (σ : Nat → Nat) (hσ : ∀ i j, σ i = σ j → i = j)
    (hh : q.heap = p.heap) (ha : ∀ i, q.arrs i = p.arrs (σ i)) :
    Inv q ∧ absPool q = fun i => absPool p (σ i) := by
  refine ⟨⟨hh ▸ hi.noub, hh ▸ hi.noasrt, fun i c hc => hh ▸ hi.valid (σ i) c ((ha i).symm.trans hc),
    fun i j c d hij hc hd => hi.sep (σ i) (σ j) c d (fun e => hij (hσ i j e)) ((ha i).symm.trans hc) ((ha j).symm.trans hd)⟩, ?_⟩
  funext i
  simp only [absPool, ha, hh]

theorem noOwner (p : Pool α) (k : Nat) : ∀ b, (fun _ : Nat => False) b → ∃ a, p.arrs k = some a ∧ ownBlock a b :=
  fun _ hf => False.elim hf

theorem ownOf {p : Pool α} {k : Nat} {a : Arr} (hk : p.arrs k = some a) : ∀ b, ownBlock a b → ∃ a', p.arrs k = some a' ∧ ownBlock a' b :=
  fun _ ho => ⟨a, hk, ho⟩

theorem absPool_some {p : Pool α} {k : Nat} {a : Arr} (h : p.arrs k = some a) : absPool p k = some (absArr p.heap a) := by
  simp [absPool, h]

theorem absPool_none {p : Pool α} {k : Nat} (h : p.arrs k = none) : absPool p k = none := by simp [absPool, h]

/-- the occupant of slot `k` is replaced by what an operation on it (and on nothing else of the pool) returns -/
theorem Inv.onSlot {p : Pool α} (hi : Inv p) {k : Nat} {a : Arr} (ha : p.arrs k = some a) {f : Arr → Heap α × Arr}
    {g : AbsArr α → AbsArr α} (ho : Valid p.heap a → Outcome p.heap (f a).1 (ownBlock a) (f a).2 (g (absArr p.heap a))) :
    Inv (match p.arrs k with | some a => (p.withHeap (f a).1).set k (some (f a).2) | none => p) ∧
    absPool (match p.arrs k with | some a => (p.withHeap (f a).1).set k (some (f a).2) | none => p) =
      upd (absPool p) k ((absPool p k).map g) := by
  rw [absPool_some ha, ha]
  exact hi.replace k (ho (hi.valid k a ha)) (ownOf ha)

theorem Inv.swapSlots {p q : Pool α} (hi : Inv p) {j k : Nat} {a b : Arr} (hj : p.arrs j = some a) (hk : p.arrs k = some b)
    (hh : q.heap = p.heap) (hq : q.arrs = upd (upd p.arrs j (some b)) k (some a)) :
    Inv q ∧ absPool q = upd (upd (absPool p) j (absPool p k)) k (absPool p j) := by
  rw [← hk, ← hj, upd_swap] at hq
  rw [upd_swap]
  exact hi.reindex _ (fun i i' e => by grind) hh (congrFun hq)

/-- the array of slot `src` hands its block over to slot `k` (a free slot, or one whose occupant released its block on the way from
    `p.heap` to `h'`) and is left empty -/
theorem Inv.transfer {p : Pool α} (hi : Inv p) {k src : Nat} (hks : k ≠ src) {b : Arr} (hb : p.arrs src = some b) (hD : b.dim ≠ 0)
    {h' : Heap α} {M : Nat → Prop} (hframe : Frame p.heap h' M) (hub : h'.ub = p.heap.ub) (hasrt : h'.asrt = p.heap.asrt)
    (hM : ∀ x, M x → ∃ a, p.arrs k = some a ∧ ownBlock a x) (β : Option Nat) {b' : Arr} (hbase : b'.base = b.base)
    (hnum : b'.numElements = b.numElements) (hv' : Valid h' b') (habs : absArr h' b' = absArr p.heap b) :
    Inv (((p.withHeap h').set src (some ⟨β, emptyLay b.dim⟩)).set k (some b')) ∧
    absPool (((p.withHeap h').set src (some ⟨β, emptyLay b.dim⟩)).set k (some b')) =
      upd (upd (absPool p) src (some (emptyVal b.exts.length))) k (some (absArr p.heap b)) := by
  rw [exts_length]
  -- first the source becomes empty
  obtain ⟨ve, ae⟩ := empty_valid p.heap β hD
  obtain ⟨i1, p1⟩ := hi.replace' src (M := fun _ => False) (Frame.refl _ _) rfl rfl ve ae (fun _ hf => False.elim hf)
    (fun hn => absurd (emptyLay_numElements hD) hn)
  have hother : ∀ {j}, j ≠ src → ((p.withHeap p.heap).set src (some ⟨β, emptyLay b.dim⟩)).arrs j = p.arrs j :=
    fun hj => upd_other _ _ hj
  -- then slot `k` takes over the block
  obtain ⟨i2, p2⟩ := i1.replace' k (h' := h') hframe hub hasrt hv' habs (fun x hx => by rw [hother hks]; exact hM x hx) (by
    intro hn j c hjk hc hnc
    by_cases hjs : j = src
    · subst hjs
      rw [← Option.some.inj ((upd_same _ _ _).symm.trans hc)] at hnc
      exact absurd (emptyLay_numElements hD) hnc
    · rw [hbase]
      exact hi.sep j src c b hjs ((hother hjs).symm.trans hc) hb hnc (hnum ▸ hn))
  exact ⟨i2, p2.trans (congrArg (upd · k _) p1)⟩

/-- end of an array's lifetime: its block is released, nothing else changes -/
theorem Inv.remove {p : Pool α} (hi : Inv p) {k : Nat} {a : Arr} (hk : p.arrs k = some a) :
    Inv ((p.withHeap (dtor p.heap a)).set k none) ∧ absPool ((p.withHeap (dtor p.heap a)).set k none) = upd (absPool p) k none := by
  obtain ⟨hf, hu, hs, _⟩ := deallocate_frame (hi.valid k a hk)
  exact hi.setSlot k hf hu hs (ownOf hk) (fun _ e => nomatch e) (fun _ e => nomatch e)

end Own
end Multi
