/-
  MultiProofs.CastLemmas — helper lemmas for C12: `layout_t::scale` on well-formed layouts (any index bases), transfer of
  `Op.InDomain` between views of equal extents; zero-basedness as an invariant of the view algebra.
-/
import MultiProofs.C01
import MultiModel.Cast

namespace Multi

/-- the stride assertion of `scale`, at every level: `(stride_*num) % den == 0` (layout.hpp:986) -/
def ScaleDiv (l : Layout) (num den : Int) : Prop := ∀ d ∈ l, den ∣ d.stride * num

/-- the offset assertion of `scale`, at every level: `(offset_*num) % den == 0` (layout.hpp:987) -/
def ScaleDivOff (l : Layout) (num den : Int) : Prop := ∀ d ∈ l, den ∣ d.offset * num

theorem ScaleDiv.tail {d : Dim} {l : Layout} {a b : Int} (h : ScaleDiv (d :: l) a b) : ScaleDiv l a b :=
  fun x hx => h x (List.mem_cons_of_mem _ hx)

theorem scaleDiv_of_dvd (l : Layout) {num den : Int} (h : den ∣ num) : ScaleDiv l num den :=
  fun _ _ => Int.dvd_trans h (Int.dvd_mul_left _ _)
theorem scaleDivOff_of_dvd (l : Layout) {num den : Int} (h : den ∣ num) : ScaleDivOff l num den :=
  fun _ _ => Int.dvd_trans h (Int.dvd_mul_left _ _)

/-- on a well-formed layout without empty level the offset assertion follows from the stride assertion
    (an offset is a multiple of the stride) -/
theorem scaleDivOff_of_wf (l : Layout) (num den : Int) (hwf : l.WF) (hne : ∀ d ∈ l, d.nelems ≠ 0) (hd : ScaleDiv l num den) :
    ScaleDivOff l num den := by
  intro d hdm
  obtain ⟨q, hq⟩ := hd d hdm
  exact ⟨d.ext.first * q, by rw [(hwf d hdm).offset_eq (hne d hdm), Int.mul_assoc, hq, Int.mul_left_comm]⟩

theorem scaleAsserts_of_div {l : Layout} {num den : Int} (hs : ScaleDiv l num den) (ho : ScaleDivOff l num den) :
    l.scaleAsserts num den = true := by
  simp only [Layout.scaleAsserts, List.all_eq_true, Bool.and_eq_true, beq_iff_eq]
  exact fun d hd => ⟨Int.tmod_eq_zero_of_dvd (hs d hd), Int.tmod_eq_zero_of_dvd (ho d hd)⟩

theorem scale_cons (d : Dim) (l : Layout) (num den : Int) :
    Layout.scale (d :: l) num den = ⟨(d.stride * num).tdiv den, (d.offset * num).tdiv den, (d.nelems * num).tdiv den⟩ :: Layout.scale l num den := by
  simp [Layout.scale]

theorem scale_length (l : Layout) (num den : Int) : (Layout.scale l num den).length = l.length := by
  simp [Layout.scale]

theorem disp_eq_off (l : Layout) (idx : List Int) : l.disp idx = l.off idx := by
  induction l generalizing idx with
  | nil => cases idx <;> rfl
  | cons d l ih => cases idx with
    | nil => rfl
    | cons i is => exact congrArg (_ + ·) (ih is)

/-- one level of `scale` on a well-formed level (any index base): `(stride, f·stride, n·stride) ↦ (q, f·q, n·q)` with
    `den·q = stride·num` -/
theorem scale_dim {d : Dim} {num den : Int} (hwf : d.WF) (hdiv : den ∣ d.stride * num)
    (hnum : 0 < num) (hden : 0 < den) :
    let d' : Dim := ⟨(d.stride * num).tdiv den, (d.offset * num).tdiv den, (d.nelems * num).tdiv den⟩
    d'.WF ∧ d'.ext = d.ext ∧ d'.size = d.size ∧
    (d.nelems ≠ 0 → ∀ i : Int, den * (i * d'.stride - d'.offset) = num * (i * d.stride - d.offset)) := by
  intro d'
  rcases hwf.cases with hz | ⟨f, n, hn, hs, hf, hnn, he, hsz⟩
  · have : d'.nelems = 0 := by simp [d', hz]
    refine ⟨Or.inl this, ?_, ?_, fun h => absurd hz h⟩
    · rw [Dim.ext_of_nelems_zero this, Dim.ext_of_nelems_zero hz]
    · rw [Dim.size_of_nelems_zero this, Dim.size_of_nelems_zero hz]
  · obtain ⟨q, hq⟩ := hdiv
    have hden0 : den ≠ 0 := by omega
    have hqpos : 0 < q := by
      have : 0 < den * q := by rw [← hq]; exact Int.mul_pos hs hnum
      exact Int.pos_of_mul_pos_right this hden
    -- a field `x * stride` scales to `x * q`
    have sc : ∀ x : Int, (x * d.stride * num).tdiv den = x * q := fun x =>
      Int.tdiv_eq_of_eq_mul_right hden0 (by rw [Int.mul_assoc, hq, Int.mul_left_comm])
    have hd' : d' = ⟨q, f * q, n * q⟩ := by
      simp only [d', hf, hnn, sc, Int.tdiv_eq_of_eq_mul_right hden0 hq]
    rw [hd']
    refine ⟨Dim.wf_mk hqpos hn, ?_, ?_, ?_⟩
    · rw [Dim.ext_mk hqpos hn, he]
    · rw [Dim.size_of_stride_pos hqpos, hsz]
    · intro _ i
      rw [hf]
      show den * (i * q - f * q) = num * (i * d.stride - f * d.stride)
      rw [← Int.sub_mul, ← Int.sub_mul, Int.mul_left_comm, ← hq, Int.mul_left_comm num, Int.mul_comm num]

/-- the level `(1, 0, n)` that `reinterpret_array_cast<U>(n)` adds: `n` consecutive objects -/
theorem unit_level {n : Int} (hn : 0 ≤ n) : (⟨1, 0, n⟩ : Dim).WF ∧ (⟨1, 0, n⟩ : Dim).ext = ⟨0, n⟩ := by
  by_cases h0 : n = 0
  · subst h0; exact ⟨Or.inl rfl, rfl⟩
  · have hp : 0 < n := by omega
    refine ⟨Or.inr ⟨Int.one_pos, hp, Int.one_dvd n, Int.one_dvd 0⟩, ?_⟩
    have := Dim.ext_mk (s := 1) (f := 0) Int.one_pos hp
    rwa [Int.zero_mul, Int.mul_one, Int.zero_add] at this

theorem scale_wf (l : Layout) (num den : Int) (hwf : l.WF) (hd : ScaleDiv l num den)
    (hnum : 0 < num) (hden : 0 < den) :
    (Layout.scale l num den).WF ∧ (Layout.scale l num den).exts = l.exts := by
  induction l with
  | nil => simp [Layout.scale, Layout.WF, Layout.exts]
  | cons d l ih =>
    obtain ⟨i1, i2⟩ := ih hwf.tail hd.tail
    obtain ⟨a1, a2, _, _⟩ := scale_dim hwf.head (hd d (by simp)) hnum hden
    rw [scale_cons]
    refine ⟨Layout.WF.cons a1 i1, ?_⟩
    simp only [Layout.exts, List.map_cons]; rw [a2]; exact congrArg _ i2

/-- displacements scale exactly, for every index tuple of the box and every index base:
    `den * off(scale l) idx = num * off(l) idx` -/
theorem scale_off (l : Layout) (num den : Int) (idx : List Int) (hwf : l.WF) (hd : ScaleDiv l num den)
    (hnum : 0 < num) (hden : 0 < den) (hin : InBox l.exts idx) :
    den * (Layout.scale l num den).off idx = num * l.off idx := by
  induction l generalizing idx with
  | nil => cases idx <;> simp [Layout.scale, Layout.off]
  | cons d l ih =>
    simp only [Layout.exts, List.map_cons] at hin
    obtain ⟨i, is, rfl, h1, h2, h3⟩ := inBox_cons hin
    have hne : d.nelems ≠ 0 := by
      intro h0; rw [Dim.ext_of_nelems_zero h0] at h1 h2
      exact Int.lt_irrefl 0 (Int.lt_of_le_of_lt h1 h2)
    obtain ⟨_, _, _, a5⟩ := scale_dim hwf.head (hd d (by simp)) hnum hden
    rw [scale_cons]
    simp only [Layout.off]
    rw [Int.mul_add, Int.mul_add, ih is hwf.tail hd.tail h3, a5 hne i]

theorem ext_eq_head (v : View) : v.ext = v.exts.head?.getD ⟨0, 0⟩ := by
  unfold View.ext View.exts
  cases v.lay <;> rfl

theorem ext_eq_of_exts (v w : View) (h : w.exts = v.exts) : w.ext = v.ext := by
  rw [ext_eq_head, ext_eq_head, h]

theorem length_eq_of_exts (v w : View) (h : w.exts = v.exts) : w.lay.length = v.lay.length := by
  have := congrArg List.length h
  simpa [View.exts, Layout.exts] using this

/-- `Op.InDomain` depends only on the extents (and, for `flatted`, on the library's `is_flattable`) -/
theorem inDomain_congr (op : Op) (v w : View) (h : w.exts = v.exts) (hf : v.isFlattable = true → w.isFlattable = true)
    (hd : op.InDomain v) : op.InDomain w := by
  have he := ext_eq_of_exts v w h
  have hl := length_eq_of_exts v w h
  have hne : v.lay ≠ [] → w.lay ≠ [] := by
    intro hv hw; apply hv; rw [← View.exts_nil_iff, ← h, View.exts_nil_iff]; exact hw
  cases op with
  | index _ | sliced _ _ | range _ _ | strided _ | dropped _ | taked _ | partitioned _ | chunked _ =>
    -- the view enters through `lay ≠ []` and its leading extension only
    simp only [Op.InDomain] at hd ⊢
    exact ⟨hne hd.1, by rw [he]; exact hd.2⟩
  | rotated | unrotated | reversed => trivial
  | transposed => exact (hl ▸ hd : 2 ≤ w.lay.length)
  | diagonal => exact ⟨hl ▸ hd.1, by rw [h]; exact hd.2⟩
  | flatted => exact ⟨hl ▸ hd.1, hf hd.2.1, by rw [he, h]; exact hd.2.2⟩
  | call args => exact (h ▸ hd : argsInDomain args w.exts)

/-- every level has `offset_ == 0`.  The casts do not need it (`scale` multiplies the offset too); it is an invariant of
    the view algebra, `zeroOff_op` -/
def ZeroOff (l : Layout) : Prop := ∀ d ∈ l, d.offset = 0

theorem ZeroOff.tail {d : Dim} {l : Layout} (h : ZeroOff (d :: l)) : ZeroOff l :=
  fun x hx => h x (List.mem_cons_of_mem _ hx)

theorem zeroOff_of_mem {l l' : Layout} (h : ∀ x, x ∈ l' → x ∈ l) (hz : ZeroOff l) : ZeroOff l' :=
  fun x hx => hz x (h x hx)

theorem mem_rotate (l : Layout) (x : Dim) : x ∈ Layout.rotate l ↔ x ∈ l := by
  cases l with
  | nil => simp [Layout.rotate]
  | cons d l => rw [rotate_cons]; simp [or_comm]

theorem mem_unrotate (l : Layout) (x : Dim) : x ∈ Layout.unrotate l ↔ x ∈ l := by
  rcases List.eq_nil_or_concat l with h | ⟨l', d, h⟩
  · subst h; simp [Layout.unrotate]
  · subst h; rw [List.concat_eq_append, unrotate_snoc]; simp [or_comm]

theorem zeroOff_index (v : View) (i : Int) (hz : ZeroOff v.lay) : ZeroOff (v.index i).lay := by
  unfold View.index; split
  · exact hz
  · rename_i d sub h; rw [h] at hz; exact hz.tail

theorem zeroOff_head_mod (d d' : Dim) (sub : Layout) (h : d'.offset = d.offset) (hz : ZeroOff (d :: sub)) : ZeroOff (d' :: sub) := by
  intro x hx
  rcases List.mem_cons.mp hx with e | e
  · subst e; rw [h]; exact hz d (by simp)
  · exact hz x (List.mem_cons_of_mem _ e)

theorem zeroOff_sliced (v : View) (a b : Int) (hz : ZeroOff v.lay) : ZeroOff (v.sliced a b).lay := by
  unfold View.sliced; split
  · exact hz
  · rename_i d h; rw [h] at hz; simp only [Layout.slice]; exact zeroOff_head_mod d _ [] rfl hz
  · rename_i d sub _ h; rw [h] at hz; exact zeroOff_head_mod d _ sub rfl hz

theorem zeroOff_rotated (v : View) (hz : ZeroOff v.lay) : ZeroOff v.rotated.lay :=
  zeroOff_of_mem (fun x hx => (mem_rotate _ x).mp hx) hz
theorem zeroOff_unrotated (v : View) (hz : ZeroOff v.lay) : ZeroOff v.unrotated.lay :=
  zeroOff_of_mem (fun x hx => (mem_unrotate _ x).mp hx) hz

theorem zeroOff_paren (args : List Arg) : ∀ v : View, ZeroOff v.lay → ZeroOff (v.paren args).lay := by
  induction args with
  | nil => intro v hz; exact hz
  | cons a as ih =>
    intro v hz
    cases a with
    | idx i => simp only [View.paren]; exact ih _ (zeroOff_index v i hz)
    | rng _ _ | all =>
      simp only [View.paren]
      exact zeroOff_unrotated _ (ih _ (zeroOff_rotated _ (zeroOff_sliced v _ _ hz)))

theorem zeroOff_partitioned (v : View) (n : Int) (hz : ZeroOff v.lay) : ZeroOff (v.partitioned n).lay := by
  unfold View.partitioned; split
  · exact hz
  · rename_i d sub h; rw [h] at hz
    intro x hx
    rcases List.mem_cons.mp hx with e | e
    · subst e; rfl
    · exact zeroOff_head_mod d ⟨d.stride, d.offset, d.nelems.tdiv n⟩ sub rfl hz x e

/-- zero-basedness is an invariant of the whole view algebra (no domain condition needed) -/
theorem zeroOff_op (op : Op) (v : View) (hz : ZeroOff v.lay) : ZeroOff (op.apply v).lay := by
  cases op with
  | index i => exact zeroOff_index v i hz
  | sliced _ _ | range _ _ => exact zeroOff_sliced v _ _ hz
  | strided _ | dropped _ | taked _ =>
    simp only [Op.apply, View.strided, View.dropped, View.taked]; split
    · exact hz
    · rename_i d sub h; rw [h] at hz; exact zeroOff_head_mod d _ sub rfl hz
  | rotated => exact zeroOff_rotated v hz
  | unrotated => exact zeroOff_unrotated v hz
  | transposed =>
    simp only [Op.apply, View.transposed]
    apply zeroOff_of_mem _ hz
    intro x hx
    unfold Layout.transpose at hx
    split at hx
    · rename_i d0 d1 l heq
      rw [heq]
      have : x = d1 ∨ x = d0 ∨ x ∈ l := by simpa using hx
      rcases this with h | h | h
      · subst h; simp
      · subst h; simp
      · exact List.mem_cons_of_mem _ (List.mem_cons_of_mem _ h)
    · exact hx
  | reversed =>
    simp only [Op.apply, View.reversed]
    apply zeroOff_of_mem _ hz
    intro x hx; rw [reverse_eq] at hx; exact List.mem_reverse.mp hx
  | diagonal =>
    simp only [Op.apply, View.diagonal]
    split
    · rename_i d0 d1 rest h
      have hp := zeroOff_paren [Arg.rng 0 (min d0.size d1.size), Arg.rng 0 (min d0.size d1.size)] v hz
      split
      · rename_i e0 e1 sub hw
        rw [hw] at hp
        exact zeroOff_head_mod e1 _ sub rfl hp.tail
      · exact hz
    · exact hz
  | partitioned _ | chunked _ => exact zeroOff_partitioned v _ hz
  | flatted =>
    simp only [Op.apply, View.flatted]; split
    · rename_i d d1 sub h; rw [h] at hz; exact zeroOff_head_mod d1 _ sub rfl hz.tail
    · exact hz
  | call args => exact zeroOff_paren args v hz

end Multi
