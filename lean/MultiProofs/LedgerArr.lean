/-
  MultiProofs.LedgerArr — array-level specifications: releasing the storage of an array (`destroy(); deallocate()`), `clear()`,
  and building a new block (`allocate` in the mem-initialiser + construction in the body).  They are stated through relations
  between heaps (`RelB`: the block of an array has been returned; `BuiltB`: a block has been built at the end; `CleanedB`: a
  block was built and returned again) and ask of the heap only that the array concerned has its block (`HasBlock`), because
  in the middle of an operation a newly built block is held by a local variable and owned by no array of the pool.  The
  invariants are re-established at the end of the operation from these relations (`Inv.replace`, `InvA.replace`).
-/
import MultiProofs.LedgerMacro

namespace Multi
namespace Ledger

def InvS (c : Cfg) (s : St) : Prop := Inv c s.blocks s.arrs
def InvAS (c : Cfg) (s : St) : Prop := InvA c s.blocks s.arrs

/-- without an armed fault the state after stays without one -/
def NF (s s' : St) : Prop := s.fuel = none → s'.fuel = none

theorem NF.refl (s : St) : NF s s := id
theorem NF.trans {s s1 s2 : St} (h1 : NF s s1) (h2 : NF s1 s2) : NF s s2 := fun h => h2 (h1 h)

/-- with `is_always_equal` every two allocators are equal: the allocator invariant is void -/
theorem InvA.of_iae {c : Cfg} (h : c.iae = true) (B : List Block) (A : List (Option Arr)) : InvA c B A where
  ownerEq := fun _ _ _ _ _ _ _ _ _ => eqv_of_iae h _ _
  freedEq := fun _ _ _ _ => eqv_of_iae h _ _

theorem getArr_eq {s : St} {i : Nat} {x : Arr} (h : getArr s i = some x) : s.arrs[i]? = some (some x) := by
  obtain ⟨o, ho, ho'⟩ := Option.bind_eq_some_iff.mp h
  exact ho.trans (congrArg some ho')

theorem getArr_none {s : St} {i : Nat} (hlt : i < s.arrs.length) (h : getArr s i = none) : s.arrs[i]? = some none := by
  unfold getArr at h
  cases hs : s.arrs[i]? with
  | none => rw [List.getElem?_eq_none_iff] at hs; omega
  | some o => rw [hs] at h; simp at h; rw [h]

/-- the heap after `x`'s block has been returned -/
def RelB (c : Cfg) (B B1 : List Block) (x : Arr) : Prop :=
  (x.n = 0 ∧ B1 = B) ∨
  (∃ b blk blk', 0 < x.n ∧ x.base = some b ∧ B[b]? = some blk ∧ blk.freed = false ∧
      B1 = B.set b blk' ∧ blk'.freed = true ∧ FreedOK c blk' ∧ blk'.freedBy = x.alloc ∧ blk'.alloc = blk.alloc)

theorem RelB.length {c : Cfg} {B B1 : List Block} {x : Arr} (h : RelB c B B1 x) : B1.length = B.length := by
  rcases h with ⟨_, hb⟩ | ⟨b, blk, blk', _, _, _, _, hB', _⟩
  · rw [hb]
  · rw [hB', List.length_set]

theorem Inv.of_relB {c : Cfg} {B B1 : List Block} {A : List (Option Arr)} {j : Nat} {y : Arr} {new : Option Arr}
    (h : Inv c B A) (hj : A[j]? = some (some y)) (hr : RelB c B B1 y) (hnew : ∀ z, new = some z → z.n = 0) :
    Inv c B1 (A.set j new) := by
  rcases hr with ⟨hn, hb⟩ | ⟨b, blk, blk', hpos, hb, hB, hf, hB', hfr, hok, _, _⟩
  · rw [hb]; exact Inv.set_nonowning h hj (fun b => ownsB_empty b hn) hnew
  · rw [hB']; exact Inv.release h hj hpos hb hB hf hfr hok hnew

theorem InvA.of_relB {c : Cfg} {B B1 : List Block} {A : List (Option Arr)} {j : Nat} {y : Arr} {new : Option Arr}
    (hA : InvA c B A) (h : Inv c B A) (hj : A[j]? = some (some y)) (hr : RelB c B B1 y) (hnew : ∀ z, new = some z → z.n = 0) :
    InvA c B1 (A.set j new) := by
  rcases hr with ⟨hn, hb⟩ | ⟨b, blk, blk', hpos, hb, hB, hf, hB', hfr, hok, hby, hal⟩
  · rw [hb]; exact InvA.set_nonowning hA hnew
  · rw [hB']
    have heq : c.eqv blk'.freedBy blk'.alloc = true := by
      rw [hby, hal]; exact eqv_symm (hA.ownerEq j y b blk hj hpos hb hB hf)
    exact InvA.release hA h hj hpos hb hB hf hfr heq hnew

/-- what adoption of a newly built block (or of nothing) does to a heap `B1` obtained from `B` -/
def NewB (c : Cfg) (a : AllocId) (B B1 B2 : List Block) (x' : Arr) : Prop :=
  (x'.n = 0 ∧ B2 = B1) ∨
  (∃ nb, 0 < x'.n ∧ x'.base = some B.length ∧ B2 = B1 ++ [nb] ∧ nb.freed = false ∧ nb.size = x'.n ∧ CellsOK c nb ∧
      nb.alloc = a)

theorem Inv.replace {c : Cfg} {a : AllocId} {B B1 B2 : List Block} {A : List (Option Arr)} {i : Nat} {x x' : Arr}
    (h : Inv c B A) (hi : A[i]? = some (some x)) (hr : RelB c B B1 x) (hnew : NewB c a B B1 B2 x') :
    Inv c B2 (A.set i (some x')) := by
  have h1 := h.of_relB hi hr (new := some { x with n := 0 }) (by rintro _ ⟨⟩; rfl)
  have hi1 : (A.set i (some { x with n := 0 }))[i]? = some (some { x with n := 0 }) :=
    List.getElem?_set_self (List.getElem?_eq_some_iff.mp hi).1
  rcases hnew with ⟨hn, hb⟩ | ⟨nb, hpos, hbase, hb, hfr, hsz, hc, _⟩
  · have := h1.set_nonowning hi1 (fun b => ownsB_empty b rfl) (new := some x') (by rintro _ ⟨⟩; exact hn)
    rwa [hb, ← List.set_set]
  · have := h1.install hi1 (fun b => ownsB_empty b rfl) hpos (by rw [hbase, hr.length]) hfr hsz hc
    rwa [hb, ← List.set_set]

theorem InvA.replace {c : Cfg} {a : AllocId} {B B1 B2 : List Block} {A : List (Option Arr)} {i : Nat} {x x' : Arr}
    (hA : InvA c B A) (h : Inv c B A) (hi : A[i]? = some (some x)) (hr : RelB c B B1 x) (hnew : NewB c a B B1 B2 x')
    (hal : c.eqv a x'.alloc = true) :
    InvA c B2 (A.set i (some x')) := by
  have hI1 := h.of_relB hi hr (new := some { x with n := 0 }) (by rintro _ ⟨⟩; rfl)
  have h1 := hA.of_relB h hi hr (new := some { x with n := 0 }) (by rintro _ ⟨⟩; rfl)
  rcases hnew with ⟨hn, hb⟩ | ⟨nb, hpos, hbase, hb, hfr, hsz, hc, hna⟩
  · have := h1.set_nonowning (i := i) (new := some x') (by rintro _ ⟨⟩; exact hn)
    rwa [hb, ← List.set_set]
  · have := h1.install hI1 (i := i) (a := x') (by rw [hbase, hr.length]) hfr (by rw [hna]; exact hal)
    rwa [hb, ← List.set_set]

/-- what `destroy(); deallocate()` of array `x` does to the heap -/
def Released (c : Cfg) (s s' : St) (x : Arr) : Prop :=
  NF s s' ∧ s'.arrs = s.arrs ∧
  ((x.n = 0 ∧ s'.blocks = s.blocks) ∨
   (∃ b blk blk', 0 < x.n ∧ x.base = some b ∧ s.blocks[b]? = some blk ∧ blk.freed = false ∧
      s'.blocks = s.blocks.set b blk' ∧ blk'.freed = true ∧ FreedOK c blk' ∧ blk'.freedBy = x.alloc ∧ blk'.alloc = blk.alloc))

theorem Released.relB {c : Cfg} {s s' : St} {x : Arr} (h : Released c s s' x) : RelB c s.blocks s'.blocks x := h.2.2

theorem Released.length {c : Cfg} {s s' : St} {x : Arr} (hr : Released c s s' x) : s'.blocks.length = s.blocks.length :=
  hr.relB.length

theorem readHas_out (c : Cfg) (count : Nat) (x : Arr) (s : St) {Q : St → Prop} {T : Prop}
    (hblk : HasBlock c s.blocks x) (hle : count ≤ x.n) :
    Out (readCells c x.base count s) (fun _ s' => s' = s) Q T := by
  by_cases h0 : count = 0
  · subst h0; exact readCells_zero c x.base s
  · obtain ⟨b, blk, hb, hB, hf, hsz, hc⟩ := hblk (Nat.lt_of_lt_of_le (Nat.pos_of_ne_zero h0) hle)
    rw [hb]
    exact readCells_out c b count s hB hf (hsz ▸ hle) hc

/-- `destroy(); deallocate()` of an array that has its block neither throws nor is undefined; `release_bind` is the form
    for a program that goes on -/
theorem release_out (c : Cfg) (hwf : c.WF) (x : Arr) (s : St) {Q : St → Prop} {T : Prop} (hblk : HasBlock c s.blocks x) :
    Out ((destroyAll c x.base x.n >>= fun _ => deallocate c x.alloc x.base x.n) s) (fun _ s' => Released c s s' x) Q T := by
  by_cases hn : x.n = 0
  · rw [hn]
    apply Out.bind_same (destroyAll_zero c x.base s)
    intro _
    apply (deallocate_zero (Q := Q) c x.alloc x.base s).imp
    rintro _ _ rfl
    exact ⟨NF.refl _, rfl, Or.inl ⟨hn, rfl⟩⟩
  · have hpos : 0 < x.n := Nat.pos_of_ne_zero hn
    obtain ⟨b, blk, hb, hB, hf, hsz, hc⟩ := hblk hpos
    rw [hb]
    apply Out.bind_ok (destroyAll_out c hwf b x.n s hpos hB hf hsz hc)
    intro _ s1 ⟨cs', h1, hlen, hraw⟩
    have hB1 : s1.blocks[b]? = some { blk with cells := cs' } := by rw [h1.blocks]; exact withCells_get hB
    apply (deallocate_out (Q := Q) c x.alloc b x.n s1 hpos hB1 hf hsz hraw).imp
    intro _ s2 h2
    refine ⟨fun h => h2.fuel (h1.fuel h), by rw [h2.arrs, h1.arrs], Or.inr ⟨b, blk, freedBlock { blk with cells := cs' } x.alloc,
      hpos, hb, hB, hf, ?_, rfl, ⟨by show cs'.length = blk.size; rw [hlen, hsz], hraw⟩, rfl, rfl⟩⟩
    rw [h2.blocks, h1.blocks]
    unfold withCells
    rw [List.set_set]

theorem release_bind {β : Type} (c : Cfg) (hwf : c.WF) (x : Arr) (s : St) {f : Unit → M β} {P : β → St → Prop}
    {Q : St → Prop} {T : Prop} (hblk : HasBlock c s.blocks x) (hf : ∀ s', Released c s s' x → Out (f () s') P Q T) :
    Out ((destroyAll c x.base x.n >>= fun _ => deallocate c x.alloc x.base x.n >>= f) s) P Q T := by
  rw [← bind_assoc]
  exact Out.bind_ok (release_out c hwf x s hblk) (fun _ s' h => hf s' h)

theorem clearArr_raw (c : Cfg) (hwf : c.WF) (i : Nat) (x : Arr) (s : St) {Q : St → Prop} {T : Prop}
    (hblk : HasBlock c s.blocks x) :
    Out (clearArr c i x s)
      (fun x' s' => x' = { x with ext := emptyExts c.dim, n := 0 } ∧ NF s s' ∧ s'.arrs = s.arrs.set i (some x') ∧
        RelB c s.blocks s'.blocks x) Q T := by
  unfold clearArr
  apply release_bind c hwf x s hblk
  intro s1 hr
  apply Out.bind (setSlot_out i _ s1) _ (fun _ h => h)
  intro _ s2 h2
  exact ⟨rfl, fun h => h2.fuel (hr.1 h), by rw [h2.arrs, hr.2.1], by rw [h2.blocks]; exact hr.relB⟩

/-- the heap after `build` has returned `p`: as before for `n = 0`, else with a new outstanding block of `n` constructed cells
    at the end -/
def BuiltB (c : Cfg) (a : AllocId) (n : Nat) (B B' : List Block) (p : Option Nat) : Prop :=
  (n = 0 ∧ p = none ∧ B' = B) ∨
  (∃ blk, 0 < n ∧ p = some B.length ∧ B' = B ++ [blk] ∧ blk.freed = false ∧ blk.size = n ∧ CellsOK c blk ∧ blk.alloc = a)

def Built (c : Cfg) (a : AllocId) (n : Nat) (s s' : St) (p : Option Nat) : Prop :=
  NF s s' ∧ s'.arrs = s.arrs ∧ BuiltB c a n s.blocks s'.blocks p

theorem Built.builtB {c : Cfg} {a : AllocId} {n : Nat} {s s' : St} {p : Option Nat} (h : Built c a n s s' p) :
    BuiltB c a n s.blocks s'.blocks p := h.2.2

/-- the heap as before, possibly with one more block that has been returned through the allocator `a` that produced it -/
def CleanedB (c : Cfg) (a : AllocId) (B B' : List Block) : Prop :=
  B' = B ∨ ∃ blk, B' = B ++ [blk] ∧ blk.freed = true ∧ FreedOK c blk ∧ blk.freedBy = a ∧ blk.alloc = a

def Cleaned (c : Cfg) (a : AllocId) (s s' : St) : Prop := s'.arrs = s.arrs ∧ CleanedB c a s.blocks s'.blocks

/-- the block `build` has returned, seen as the storage of an array `x` (one of the pool, or a local `static_array`) -/
theorem BuiltB.has {c : Cfg} {a : AllocId} {n : Nat} {B B' : List Block} {p : Option Nat} (hb : BuiltB c a n B B' p) {x : Arr}
    (hxb : x.base = p) (hxn : x.n = n) : HasBlock c B' x := by
  intro hpos
  rcases hb with ⟨hn, _, _⟩ | ⟨blk, _, hp, rfl, hfr, hsz, hc, _⟩
  · omega
  · exact ⟨B.length, blk, hxb.trans hp, List.getElem?_concat_length, hfr, hsz.trans hxn.symm, hc⟩

theorem BuiltB.released {c : Cfg} {a : AllocId} {n : Nat} {B B' B'' : List Block} {p : Option Nat} (hb : BuiltB c a n B B' p)
    {x : Arr} (hxb : x.base = p) (hxn : x.n = n) (hxa : x.alloc = a) (hr : RelB c B' B'' x) : CleanedB c a B B'' := by
  rcases hb with ⟨hn, _, rfl⟩ | ⟨nb, hn, hp, rfl, _, _, _, hba⟩
  · rcases hr with ⟨_, rfl⟩ | ⟨b, blk, blk', hpos, _⟩
    · exact Or.inl rfl
    · omega
  · rcases hr with ⟨h0, _⟩ | ⟨b, blk, blk', _, hb', hB, _, rfl, hfr, hok, hby, hal⟩
    · omega
    · obtain rfl : B.length = b := Option.some.inj (hp.symm.trans (hxb.symm.trans hb'))
      rw [List.getElem?_concat_length] at hB
      obtain rfl := Option.some.inj hB
      exact Or.inr ⟨blk', set_last, hfr, hok, hby.trans hxa, hal.trans hba⟩

/-- construction of all `n` cells of the block `allocate` has just returned in `s1` (none for `n = 0`): all alive afterwards;
    if a construction throws, the flat algorithms leave the block raw -/
theorem constructAll_new (c : Cfg) (a : AllocId) (n rowLen : Nat) (s s1 : St) (p : Option Nat) {T : Prop}
    (hp : (n = 0 ∧ p = none ∧ Fr s s1 s.blocks s.arrs) ∨
      (0 < n ∧ p = some s.blocks.length ∧ Fr s s1 (s.blocks ++ [freshBlock a n]) s.arrs)) :
    Out (constructAll c p n rowLen s1)
      (fun _ s' => Built c a n s s' p)
      (fun s' => s.fuel ≠ none ∧ 0 < n ∧ p = some s.blocks.length ∧ s'.arrs = s.arrs ∧
        ∃ cs', s'.blocks = s.blocks ++ [{ freshBlock a n with cells := cs' }] ∧ cs'.length = n ∧
          (rowLen = 0 → ∀ x ∈ cs', x = Cell.raw)) T := by
  rcases hp with ⟨rfl, rfl, h1⟩ | ⟨hn, rfl, h1⟩
  · apply (constructAll_zero c none rowLen s1).imp
    rintro _ _ rfl
    exact ⟨h1.fuel, h1.arrs, Or.inl ⟨rfl, rfl, h1.blocks⟩⟩
  unfold constructAll
  rw [if_neg (Nat.ne_of_gt hn)]
  have hB : s1.blocks[s.blocks.length]? = some (freshBlock a n) := by rw [h1.blocks]; exact List.getElem?_concat_length
  have hlen0 : (freshBlock a n).cells.length = n := List.length_replicate
  have hpre : LiveTo (freshBlock a n).cells 0 n :=
    ⟨fun j hj => absurd hj (Nat.not_lt_zero j), fun j _ hj => freshBlock_cells a n j hj⟩
  apply Out.mono (constructN_out (T := T) c s.blocks.length (rowStart rowLen) n n 0 s1 (freshBlock a n) hB rfl (Nat.zero_add n) hpre)
    _ _ id
  · intro _ s' ⟨cs', hfr, hlen, hb⟩
    have hl : cs'.length = n := hlen.trans hlen0
    exact ⟨fun e => hfr.fuel (h1.fuel e), hfr.arrs.trans h1.arrs, Or.inr ⟨{ freshBlock a n with cells := cs' }, hn, rfl,
      by rw [hfr.blocks, h1.blocks]; exact withCells_last, rfl, rfl, ⟨hl, Or.inr (all_of_pointwise hl hb.live)⟩, rfl⟩⟩
  · intro s' ⟨hfu, cs', hfr, hlen, hrb⟩
    have hl : cs'.length = n := hlen.trans hlen0
    exact ⟨h1.armed hfu, hn, rfl, hfr.arrs.trans h1.arrs, cs', by rw [hfr.blocks, h1.blocks]; exact withCells_last, hl,
      fun hr => all_of_pointwise hl (hrb fun x => by simp [rowStart, hr])⟩

/-- with `construct = false` (a trivially default-constructible element type that is not filled) the cells stay raw, hence
    `hct` -/
theorem buildSafe_out (c : Cfg) (a : AllocId) (n : Nat) (construct : Bool) (s : St) {T : Prop}
    (hct : construct = false → c.trivCtor = true) :
    Out (buildSafe c a n construct s)
      (fun p s' => Built c a n s s' p)
      (fun s' => s.fuel ≠ none ∧ Cleaned c a s s') T := by
  unfold buildSafe
  apply Out.bind (allocate_out a n s) _ (fun s1 ⟨h1, hfu⟩ => ⟨hfu, h1.arrs, Or.inl h1.blocks⟩)
  intro p s1 hp
  cases construct with
  | false =>
    apply Out.pure'
    rcases hp with ⟨hn, hp, h1⟩ | ⟨hn, hp, h1⟩
    · exact ⟨h1.fuel, h1.arrs, Or.inl ⟨hn, hp, h1.blocks⟩⟩
    · exact ⟨h1.fuel, h1.arrs, Or.inr ⟨freshBlock a n, hn, hp, h1.blocks, rfl, rfl, ⟨by simp [freshBlock], Or.inl (hct rfl)⟩, rfl⟩⟩
  | true =>
    show Out ((tryCatch (constructAll c p n) (do deallocate c a p n; rethrow) >>= fun _ => pure p) s1) _ _ _
    refine Out.bind (Out.tryCatch' (constructAll_new (T := T) c a n 0 s s1 p hp) ?_ (fun _ _ hb => hb))
      (fun _ _ hb => Out.pure' hb) (fun _ h => h)
    rintro s2 ⟨hfu, hn, rfl, harr2, cs', hbl2, hlen, hraw⟩
    have hB2 : s2.blocks[s.blocks.length]? = some { freshBlock a n with cells := cs' } := by
      rw [hbl2]; exact List.getElem?_concat_length
    show Out ((deallocate c a (some s.blocks.length) n >>= fun _ => rethrow) s2) _ _ _
    apply Out.bind (deallocate_out c a s.blocks.length n s2 hn hB2 rfl rfl (Or.inr (hraw rfl))) _ (fun _ h => h)
    intro _ s3 h3
    apply rethrow_out
    refine ⟨hfu, by rw [h3.arrs, harr2], Or.inr ⟨freedBlock { freshBlock a n with cells := cs' } a, ?_, rfl,
      ⟨hlen, Or.inr (hraw rfl)⟩, rfl, rfl⟩⟩
    rw [h3.blocks, hbl2]
    exact set_last

/-- the constructors' `build` in the repaired code (`fx6`: the body is wrapped in `construct_or_deallocate_`) -/
theorem build_out (c : Cfg) (a : AllocId) (n : Nat) (construct : Bool) (rowLen : Nat) (s : St) {T : Prop}
    (hfx : c.fx6 = true) (hct : construct = false → c.trivCtor = true) :
    Out (build c a n construct rowLen s)
      (fun p s' => Built c a n s s' p)
      (fun s' => s.fuel ≠ none ∧ Cleaned c a s s') T := by
  unfold build
  rw [if_pos hfx]
  exact buildSafe_out c a n construct s hct

theorem HasBlock.grow {c : Cfg} {B B' : List Block} {x : Arr} (h : HasBlock c B x) (hB : B' = B ∨ ∃ blk, B' = B ++ [blk]) :
    HasBlock c B' x := by
  rcases hB with rfl | ⟨blk, rfl⟩
  · exact h
  · exact h.append blk

theorem BuiltB.grow {c : Cfg} {a : AllocId} {n : Nat} {B B' : List Block} {p : Option Nat} (hb : BuiltB c a n B B' p) :
    B' = B ∨ ∃ blk, B' = B ++ [blk] :=
  hb.imp (fun h => h.2.2) (fun ⟨blk, h⟩ => ⟨blk, h.2.2.1⟩)

theorem CleanedB.grow {c : Cfg} {a : AllocId} {B B' : List Block} (h : CleanedB c a B B') : B' = B ∨ ∃ blk, B' = B ++ [blk] :=
  h.imp id (fun ⟨blk, h⟩ => ⟨blk, h.1⟩)

/-- releasing on a heap with one more block at the end is releasing underneath it -/
theorem RelB.of_append {c : Cfg} {B B1 : List Block} {nb : Block} {x : Arr} (hx : HasBlock c B x)
    (h : RelB c (B ++ [nb]) B1 x) : ∃ B0, RelB c B B0 x ∧ B1 = B0 ++ [nb] := by
  rcases h with ⟨hn, hb⟩ | ⟨b, blk, blk', hpos, hb, hB, hf, hB', r⟩
  · exact ⟨B, Or.inl ⟨hn, rfl⟩, hb⟩
  · obtain ⟨b2, blk2, hb2, hB2, _⟩ := hx hpos
    have hbb : b = b2 := by rw [hb] at hb2; simpa using hb2
    subst hbb
    have hlt : b < B.length := (List.getElem?_eq_some_iff.mp hB2).1
    rw [List.getElem?_append_left hlt] at hB
    exact ⟨B.set b blk', Or.inr ⟨b, blk, blk', hpos, hb, hB, hf, rfl, r⟩, by rw [hB', List.set_append_left _ _ hlt]⟩

/-- a block was built at the end of the heap, then the block of `x` was returned underneath it: the same heap results from
    the release followed by the build -/
theorem BuiltB.commute {c : Cfg} {a : AllocId} {n : Nat} {B B' B3 : List Block} {p : Option Nat} {x : Arr}
    (hb : BuiltB c a n B B' p) (hx : HasBlock c B x) (hrel : RelB c B' B3 x) :
    ∃ B1, RelB c B B1 x ∧ BuiltB c a n B1 B3 p := by
  rcases hb with ⟨hn, hp, rfl⟩ | ⟨nb, hn, hp, rfl, r⟩
  · exact ⟨B3, hrel, Or.inl ⟨hn, hp, rfl⟩⟩
  · obtain ⟨B0, hr0, rfl⟩ := RelB.of_append hx hrel
    exact ⟨B0, hr0, Or.inr ⟨nb, hn, by rw [hp, hr0.length], rfl, r⟩⟩

theorem BuiltB.newB {c : Cfg} {a : AllocId} {n : Nat} {B B1 B2 : List Block} {p : Option Nat} {x' : Arr}
    (hb : BuiltB c a n B1 B2 p) (hlen : B1.length = B.length) (hxb : x'.base = p) (hxn : x'.n = n) : NewB c a B B1 B2 x' := by
  rcases hb with ⟨hn, _, hbl⟩ | ⟨nb, hn, hp, hbl, hfr, hsz, r⟩
  · exact Or.inl ⟨hxn.trans hn, hbl⟩
  · exact Or.inr ⟨nb, hxn ▸ hn, by rw [hxb, hp, hlen], hbl, hfr, hsz.trans hxn.symm, r⟩

end Ledger
end Multi
