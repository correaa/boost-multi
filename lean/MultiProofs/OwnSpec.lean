/-
  MultiProofs.OwnSpec — what C04 / C06 say, independently of how array.hpp computes it.

  An owning array *denotes* a value `AbsArr`: its extensions and its elements in canonical (row-major) order.
  A pool of arrays named by numbers denotes `Nat → Option AbsArr`.  `Valid` is the representation invariant of one array
  (layout built from extensions, storage = one live block of exactly `num_elements` cells), `Inv` the invariant
  of a pool (every array valid, arrays with elements own pairwise different blocks, no UB / failed assertion so far).
-/
import MultiProofs.OwnHeap
import MultiProofs.C01

namespace Multi
namespace Own
variable {α : Type}

/-- the value of an owning array: extensions + elements in canonical order (`none` = indeterminate element) -/
structure AbsArr (α : Type) where
  exts  : List Ext
  elems : List (Cell α)

theorem AbsArr.ext' {x y : AbsArr α} (h1 : x.exts = y.exts) (h2 : x.elems = y.elems) : x = y := by
  cases x; cases y; simp_all

/-- the cells an array owns, in storage order -/
def cellsOf (h : Heap α) (a : Arr) : List (Cell α) :=
  match h.block? a.base with
  | some cs => cs.take a.numElements.toNat
  | none => []

def absArr (h : Heap α) (a : Arr) : AbsArr α := ⟨a.exts, cellsOf h a⟩

/-- extensions are well formed: `first ≤ last` -/
def ExtsOK (es : List Ext) : Prop := ∀ e ∈ es, e.first ≤ e.last

structure Valid (h : Heap α) (a : Arr) : Prop where
  shape : ∃ es, ExtsOK es ∧ a.lay = Layout.ofExts es
  store : a.numElements = 0 ∨ ∃ (b : Nat) (cs : List (Cell α)), a.base = some b ∧ Live h b cs ∧ cs.length = a.numElements.toNat

/-- "empty": no elements and all extensions `[0,0)` -/
def IsEmpty (a : Arr) : Prop := a.numElements = 0 ∧ ∀ e ∈ a.exts, e = ⟨0, 0⟩

structure Pool (α : Type) where
  heap : Heap α
  arrs : Nat → Option Arr

def Pool.set (p : Pool α) (k : Nat) (a : Option Arr) : Pool α :=
  { p with arrs := fun j => if j = k then a else p.arrs j }

def Pool.withHeap (p : Pool α) (h : Heap α) : Pool α := { p with heap := h }

def absPool (p : Pool α) : Nat → Option (AbsArr α) := fun k => (p.arrs k).map (absArr p.heap)

structure Inv (p : Pool α) : Prop where
  noub   : p.heap.ub = false
  noasrt : p.heap.asrt = false
  valid  : ∀ k a, p.arrs k = some a → Valid p.heap a
  /-- `independent`: arrays with elements own pairwise different blocks -/
  sep    : ∀ j k a b, j ≠ k → p.arrs j = some a → p.arrs k = some b → a.numElements ≠ 0 → b.numElements ≠ 0 → a.base ≠ b.base

end Own
end Multi
