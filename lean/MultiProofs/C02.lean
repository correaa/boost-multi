/-
  C02 — Iterators, cursors and flat element ranges obey the random-access laws.

  `begin()/end()` iterators are `ArrIt`; the `elements()` iterator is `ElemIt`.
  The laws for `ElemIt` are all consequences of one invariant (`GoodIt`: the index tuple is
  `from_linear(n_)`), established by the constructor and preserved by `++ -- += -= =`; since a `GoodIt`
  iterator is determined by its position (`GoodIt.unique`), "(it+n)−n == it" etc. hold as equalities of the
  full iterator state, not just of the compared field.

  Not modelled (validated by the correspondence run only): const vs mutable iterator types compare equal.
-/
import MultiProofs.ElemIter

namespace Multi
namespace C02

/-- random-access laws of `array_iterator` (any stride ≠ 0; `<` is `0 < other − self` by definition) -/
theorem arrit_laws (it : ArrIt) (n m : Int) (hs : it.stride ≠ 0) :
    it.inc.dec = it ∧ it.dec.inc = it ∧ it.inc = it.add 1 ∧ it.dec = it.sub' 1 ∧
    (it.add n).sub' n = it ∧ (it.add n).diff it = n ∧ (it.add n).diff (it.add m) = n - m ∧
    (it.lt (it.add n) = decide (0 < n)) ∧ ((it.add n).lt it = decide (n < 0)) ∧
    it.at' n = (it.add n).deref ∧ ((it.add n).eq (it.add m) = true ↔ n = m) := by
  refine ⟨(arrit_inc_dec it).1, (arrit_inc_dec it).2, (arrit_inc_eq_add it).1, (arrit_inc_eq_add it).2,
    (arrit_add_sub it n).1, arrit_diff_add it n hs, arrit_diff_add2 it n m hs, ?_, ?_, rfl, ?_⟩
  · simp only [ArrIt.lt]; rw [arrit_diff_add it n hs]
  · have h : it.diff (it.add n) = -n := by
      simp only [ArrIt.diff, ArrIt.add]
      have : it.ptr - (it.ptr + it.stride * n) = it.stride * (-n) := by rw [Int.mul_neg]; omega
      rw [this]; exact Int.mul_tdiv_cancel_left _ hs
    simp only [ArrIt.lt]; rw [h]
    exact decide_eq_decide.mpr (by omega)
  · simp only [ArrIt.eq, ArrIt.add, beq_iff_eq]
    constructor
    · intro h
      have : it.stride * n = it.stride * m := by omega
      exact Int.eq_of_mul_eq_mul_left hs this
    · intro h; rw [h]

/-- `begin()/end()` delimit exactly `size()` positions -/
theorem begin_end_delimit (v : View) (hwf : v.lay.WF) :
    v.begin'.add v.size = v.end' ∧ v.end'.diff v.begin' = v.size := by
  obtain ⟨base, lay⟩ := v
  cases lay with
  | nil => exact ⟨congrArg (ArrIt.mk · 0 []) (Int.add_zero base), by simp [View.begin', View.end', View.size, ArrIt.diff]⟩
  | cons d sub =>
    have hd : d.WF := hwf.head
    refine ⟨congrArg (ArrIt.mk · d.stride sub) ?_, ?_⟩
    · show base + d.stride * d.size = base + d.nelems
      rw [hd.nelems_eq, Int.mul_comm]
    · show (base + d.nelems - base).tdiv d.stride = d.size
      rw [show base + d.nelems - base = d.nelems from Int.sub_eq_iff_eq_add'.mpr rfl]
      by_cases h0 : d.nelems = 0
      · rw [h0, Dim.size_of_nelems_zero h0, Int.zero_tdiv]
      · rw [hd.nelems_eq, Int.mul_tdiv_cancel _ (Int.ne_of_gt (hd.stride_pos h0))]

/-- `*(begin() + n)` is the same sub-view (or element) as indexing with the n-th valid index -/
theorem arrit_deref (v : View) (hwf : v.lay.WF) (n : Int) (h0 : 0 ≤ n) (h1 : n < v.size) :
    (v.begin'.add n).deref = v.index (v.ext.first + n) := by
  obtain ⟨base, lay⟩ := v
  cases lay with
  | nil => exact absurd h1 (Int.not_lt.mpr h0)
  | cons d sub =>
    have hne : d.nelems ≠ 0 := fun hz => by
      rw [show View.size ⟨base, d :: sub⟩ = d.size from rfl, Dim.size_of_nelems_zero hz] at h1; omega
    show (⟨base + d.stride * n, sub⟩ : View) = ⟨base + ((d.ext.first + n) * d.stride - d.offset), sub⟩
    rw [hwf.head.offset_eq hne, Int.add_mul, Int.mul_comm d.stride]
    congr 1; omega

/-- the hypotheses under which an elements range is non-empty -/
structure NonEmpty (v : View) : Prop where
  wf : v.lay.WF
  ne : Layout.sizes v.lay ≠ []
  pos : AllPos (Layout.sizes v.lay)

theorem nonEmpty_of {v : View} (hwf : v.lay.WF) (hne : v.exts ≠ []) (hpos : ∀ e ∈ v.exts, e.first < e.last) : NonEmpty v := by
  refine ⟨hwf, ?_, ?_⟩
  · intro e; apply hne; simp only [Layout.sizes] at e; simp only [View.exts, Layout.exts, List.map_eq_nil_iff.mp e, List.map_nil]
  · intro n hn
    have hs := (C01.shape_functions_agree v hwf).1
    simp only [View.sizes] at hs
    rw [hs] at hn
    obtain ⟨e, he, rfl⟩ := List.mem_map.mp hn
    have := hpos e he
    simp only [Ext.size]; omega

theorem nonEmpty_not_isEmpty {v : View} (hv : NonEmpty v) : v.isEmpty = false := by
  have hne : v.lay ≠ [] := by
    intro e; apply hv.ne; rw [e]; rfl
  have hag := C01.shape_functions_agree v hv.wf
  have h4 := hag.2.2.2 hne
  have hsz : 0 < v.size := by
    cases hl : v.lay with
    | nil => exact absurd hl hne
    | cons d l =>
      have := hv.pos d.size (by simp [Layout.sizes, hl])
      simp [View.size, hl]; exact this
  cases hb : v.isEmpty with
  | false => rfl
  | true =>
    have := h4.mp hb
    rw [← hag.2.2.1] at this; omega

theorem ofView_exts (v : View) (h : v.lay.WF) : (ElemRange.ofView v).lay.exts = zexts (Layout.sizes v.lay) := by
  rw [ofView_eq]; exact zeroBased_exts h

/-- the iterator constructor (used by `begin()`, `end()`, and every position in between) establishes the invariant -/
theorem elemit_mk (v : View) (hv : NonEmpty v) (k : Int) (h0 : 0 ≤ k) (h1 : k ≤ prodSizes (Layout.sizes v.lay)) :
    ∃ it, (ElemRange.ofView v).mkIt k = some it ∧ GoodIt v it ∧ it.n = k :=
  GoodIt.ofMk v hv.wf hv.pos k h0 h1

theorem begin_end_good (v : View) (hv : NonEmpty v) :
    (∃ b, (ElemRange.ofView v).begin' = some b ∧ GoodIt v b ∧ b.n = 0) ∧
    (∃ e, (ElemRange.ofView v).end' = some e ∧ GoodIt v e ∧ e.n = prodSizes (Layout.sizes v.lay)) ∧
    (ElemRange.ofView v).size = prodSizes (Layout.sizes v.lay) := by
  have hN : (ElemRange.ofView v).lay.numElements = prodSizes (Layout.sizes v.lay) := by
    rw [ofView_eq, zeroBased_numElements, numElements_eq_prodSizes]
  have hpos := prodSizes_pos hv.pos
  refine ⟨elemit_mk v hv 0 (by omega) (by omega), ?_, hN⟩
  rw [ElemRange.end', hN]
  exact elemit_mk v hv _ (by omega) (by omega)

/-- `operator++` preserves the invariant and advances the position by one -/
theorem elemit_inc (v : View) (hv : NonEmpty v) (it : ElemIt) (hg : GoodIt v it) (hlt : it.n < prodSizes (Layout.sizes v.lay)) :
    ∃ it', it.inc = some it' ∧ GoodIt v it' ∧ it'.n = it.n + 1 :=
  hg.inc hv.pos hlt

/-- `operator--` preserves the invariant and moves the position back by one (also from `end()`) -/
theorem elemit_dec (v : View) (hv : NonEmpty v) (it : ElemIt) (hg : GoodIt v it) (hgt : 0 < it.n) :
    GoodIt v it.dec ∧ it.dec.n = it.n - 1 := by
  have hhi := hg.hi
  have hc := hg.canon
  have hp := hv.pos
  refine ⟨⟨hg.base, hg.lay, hg.xs, Int.le_sub_one_of_lt hgt, Int.le_trans (Int.sub_le_self _ (by decide)) hhi, ?_⟩, rfl⟩
  show Exts.fromLinear _ (it.n - 1) = some (Exts.prevCanonical it.xs it.ns).1
  rw [hg.xs]
  obtain ⟨s, ms, hs⟩ := List.exists_cons_of_ne_nil hv.ne
  rw [hs] at hp hhi hc ⊢
  -- the tuple held is a leading digit `q ≥ 0` over a tuple of the tail's box, also at `end()`
  obtain ⟨q, r, e1, q0, hr, e2⟩ := fromLinear_lead s hp.tail hg.lo
  rw [Option.some.inj (hc.symm.trans e1)]
  rw [zexts_cons] at e2 ⊢
  rcases prevCanonical_step (e := ⟨0, s⟩) (q + 1) ⟨⟨q0, Int.lt_succ q⟩, hr⟩ with ⟨_, _, c3, c5⟩ | ⟨c0, _⟩
  · obtain ⟨i', is', hres, c2, _, c4⟩ := inBox_cons c3
    rw [hres, e2] at c5
    rw [hres, ← c5, ← zexts_cons]
    refine fromLinear_rowMajor hp ⟨⟨c2, lead_lt_of_rank_lt (e := ⟨0, s⟩) c4 ?_⟩, c4⟩
    rw [c5, ← zexts_cons, nElems_zexts]
    exact Int.lt_of_lt_of_le (Int.sub_one_lt_of_le (Int.le_refl _)) hhi
  · exact absurd (e2 ▸ c0) (Int.ne_of_gt hgt)

/-- `operator+=` / `operator-=` / `operator[]` -/
theorem elemit_add (v : View) (hv : NonEmpty v) (it : ElemIt) (hg : GoodIt v it) (j : Int)
    (h0 : 0 ≤ it.n + j) (h1 : it.n + j ≤ prodSizes (Layout.sizes v.lay)) :
    (∃ it', it.add j = some it' ∧ GoodIt v it' ∧ it'.n = it.n + j ∧ it.at' j = some it'.current) ∧
    (∃ it'', it.sub' (-j) = some it'' ∧ GoodIt v it'' ∧ it''.n = it.n + j) := by
  have hnn : Exts.toLinear it.xs it.ns = it.n := by
    rw [hg.xs]; exact toLinear_fromLinear (fun h => hv.ne (List.map_eq_nil_iff.mp h)) hg.canon
  obtain ⟨qs, g1, f1⟩ := hg.recompute hv.pos (it.n + j)
  constructor
  · refine ⟨{ it with ns := qs, n := it.n + j }, ?_, ⟨hg.base, hg.lay, hg.xs, h0, h1, f1⟩, rfl, ?_⟩
    · simp only [ElemIt.add, hnn, g1, Option.map_some]
    · simp only [ElemIt.at', ElemIt.current, hnn, g1, Option.map_some]
  · have e : it.n - -j = it.n + j := by omega
    refine ⟨{ it with ns := qs, n := it.n - -j }, ?_, ⟨hg.base, hg.lay, hg.xs, by rw [e]; exact h0, by rw [e]; exact h1, by rw [e]; exact f1⟩, e⟩
    simp only [ElemIt.sub', hnn, e, g1, Option.map_some]

/-- **the k-th position of `elements()` is the element at the k-th index tuple in canonical order**
    (row-major rank `k`, last index fastest), whatever the memory layout -/
theorem elemit_deref (v : View) (hwf : v.lay.WF) (idx : List Int) (hidx : InBox v.exts idx) (it : ElemIt)
    (hg : GoodIt v it) (hn : it.n = rowMajor v.exts idx) : it.current = v.addr idx := by
  have hidx' : InBox v.lay.exts idx := hidx
  obtain ⟨p1, p2, p3⟩ := posOf_spec hidx'
  have hc := hg.canon
  rw [hn, show rowMajor v.exts idx = rowMajor v.lay.exts idx from rfl, ← p3, hwf.sizes_eq, fromLinear_rowMajor p1 p2] at hc
  rw [ElemIt.current, hg.base, hg.lay, ← Option.some.inj hc, apply_zeroBased_posOf hwf hidx', addr_eq]

/-- the laws, as equalities of iterator states: `++`/`--` inverse, `(it+j)−j == it`, `(it+j)−it == j`,
    `it<jt ⟺ jt−it>0`, `it[j]` is `*(it+j)`, assigned iterators denote the same position -/
theorem elemit_laws (v : View) (hv : NonEmpty v) (it : ElemIt) (hg : GoodIt v it) (j : Int)
    (h0 : 0 ≤ it.n + j) (h1 : it.n + j ≤ prodSizes (Layout.sizes v.lay)) :
    (it.n < prodSizes (Layout.sizes v.lay) → ∃ t, it.inc = some t ∧ t.dec = it) ∧
    (0 < it.n → it.dec.inc = some it) ∧
    (∃ jt, it.add j = some jt ∧ jt.sub' j = some it ∧ jt.diff it = j ∧ (it.lt jt = decide (0 < jt.diff it)) ∧
      it.at' j = some jt.current ∧ (ElemIt.assign it jt) = jt) := by
  refine ⟨?_, ?_, ?_⟩
  · intro hlt
    obtain ⟨t, e, g, hn⟩ := elemit_inc v hv it hg hlt
    obtain ⟨g2, hn2⟩ := elemit_dec v hv t g (hn ▸ Int.lt_add_one_iff.mpr hg.lo)
    exact ⟨t, e, GoodIt.unique g2 hg (by rw [hn2, hn, Int.add_sub_cancel])⟩
  · intro hgt
    obtain ⟨g, hn⟩ := elemit_dec v hv it hg hgt
    obtain ⟨t, e, g2, hn2⟩ := elemit_inc v hv it.dec g (hn ▸ Int.lt_of_lt_of_le (Int.sub_one_lt_of_le (Int.le_refl _)) hg.hi)
    rw [e]; exact congrArg some (GoodIt.unique g2 hg (by rw [hn2, hn, Int.sub_add_cancel]))
  · obtain ⟨⟨jt, e, g, hn, hat⟩, _⟩ := elemit_add v hv it hg j h0 h1
    have hback : jt.n + -j = it.n := by rw [hn, Int.add_neg_cancel_right]
    obtain ⟨_, ⟨b, eb, gb, hb⟩⟩ := elemit_add v hv jt g (-j) (hback ▸ hg.lo) (hback ▸ hg.hi)
    rw [Int.neg_neg] at eb
    refine ⟨jt, e, ?_, by rw [ElemIt.diff, hn]; omega,
      by simp only [ElemIt.lt, ElemIt.diff, Int.sub_pos], hat, rfl⟩
    rw [eb]; exact congrArg some (GoodIt.unique gb hg (hb.trans hback))

/-- `elements()[k]`, `front()`, `back()` agree with the k-th position -/
theorem range_index (v : View) (hv : NonEmpty v) (k : Int) (h0 : 0 ≤ k) (h1 : k < prodSizes (Layout.sizes v.lay)) :
    ∃ it, (ElemRange.ofView v).mkIt k = some it ∧ (ElemRange.ofView v).at' k = some it.current := by
  obtain ⟨it, e, g, hn⟩ := elemit_mk v hv k h0 (by omega)
  refine ⟨it, e, ?_⟩
  simp only [ElemRange.at']
  rw [ofView_exts v hv.wf]
  have := g.canon; rw [hn] at this
  rw [this]
  simp only [Option.map_some, ElemIt.current, g.base, g.lay, ofView_eq]

/-! non-vacuity: the transposed 3×4 array is `NonEmpty` and position 5 designates index (1,2) -/
example : NonEmpty (View.transposed ⟨0, Layout.ofExts [⟨0, 3⟩, ⟨0, 4⟩]⟩) :=
  ⟨by decide +kernel, by decide +kernel, by decide +kernel⟩
example : rowMajor (View.transposed ⟨0, Layout.ofExts [⟨0, 3⟩, ⟨0, 4⟩]⟩).exts [1, 2] = 5 := by decide +kernel

end C02
end Multi
