/-
  MultiProofs.AlgoLemmas — what the interface programs of AlgoProgs.lean (and `revProg` of SeqSpec.lean) compute on a list
  of independent values (pure list reasoning; no memory, no views).
-/
import MultiProofs.AlgoProgs
import MultiProofs.SeqLemmas

namespace Multi

variable {ρ : Type}

theorem forall_mem_snoc {P : ρ → Prop} {A : List ρ} {x : ρ} (hA : ∀ a ∈ A, P a) (hx : P x) : ∀ a ∈ A ++ [x], P a :=
  List.forall_mem_append.2 ⟨hA, List.forall_mem_singleton.2 hx⟩

/-- `revProg` reverses the segment `[lo, hi)` of a list of independent values -/
theorem revProg_run (fuel : Nat) (pre mid post : List ρ) (lo hi : Int) (hlo : lo = pre.length)
    (hhi : hi = (pre ++ mid).length) (hf : mid.length ≤ fuel) :
    (revProg ρ fuel lo hi).runList (pre ++ mid ++ post) = some (pre ++ mid.reverse ++ post, 0) := by
  induction fuel generalizing pre mid post lo hi with
  | zero =>
    obtain rfl := List.eq_nil_of_length_eq_zero (Nat.le_zero.1 hf)
    rfl
  | succ fuel ih =>
    rw [revProg]
    cases mid with
    | nil => rw [if_neg (by rw [hlo, hhi, List.append_nil]; omega)]; rfl
    | cons a t =>
      induction t using snoc_induction with
      | nil => rw [if_neg (by rw [hlo, hhi]; simp)]; rfl
      | snoc t b _ =>
        have h1 : hi - 1 = ((pre ++ a :: t).length : Nat) := by simp [hhi]; omega
        rw [if_pos (by rw [hlo, hhi]; simp; omega), hlo, h1, ← List.cons_append, ← List.append_assoc pre,
          List.append_assoc _ [b], List.singleton_append, Prog.runList_swap_mid, List.append_cons pre b t,
          ih (pre ++ [b]) t (a :: post) _ _ (by simp) (by simp) (by simp at hf; omega)]
        simp

theorem storeProg_list (vals pre mid post : List ρ) (h : mid.length = vals.length) :
    (storeProg vals pre.length).runList (pre ++ mid ++ post)
      = some (pre ++ vals ++ post, ((pre.length + vals.length : Nat) : Int)) := by
  induction vals generalizing pre mid with
  | nil =>
    obtain rfl := List.eq_nil_of_length_eq_zero h
    rfl
  | cons v vals ih =>
    cases mid with
    | nil => simp at h
    | cons a mid =>
      rw [storeProg, List.append_assoc, List.cons_append, Prog.runList_write_mid, natCast_length_snoc pre v,
        List.append_cons pre v (mid ++ post), ← List.append_assoc, ih _ mid (Nat.succ.inj h)]
      simp [Nat.add_assoc, Nat.add_comm 1]

theorem storeProg_all (vals xs : List ρ) (h : xs.length = vals.length) :
    (storeProg vals 0).runList xs = some (vals, (vals.length : Int)) := by
  simpa using storeProg_list vals [] xs [] h

theorem fillProg_eq_store (x : ρ) (n : Nat) (i : Int) : fillProg x n i = storeProg (List.replicate n x) i := by
  induction n generalizing i with
  | zero => rfl
  | succ n ih => rw [fillProg, ih, List.replicate_succ, storeProg]

theorem fillProg_list (x : ρ) (pre mid post : List ρ) :
    (fillProg x mid.length pre.length).runList (pre ++ mid ++ post)
      = some (pre ++ List.replicate mid.length x ++ post, ((pre.length + mid.length : Nat) : Int)) := by
  rw [fillProg_eq_store, storeProg_list _ pre mid post List.length_replicate.symm, List.length_replicate]

theorem fillProg_all (x : ρ) (xs : List ρ) :
    (fillProg x xs.length 0).runList xs = some (List.replicate xs.length x, (xs.length : Int)) := by
  simpa using fillProg_list x [] xs []

/- Position arithmetic of the loops over blocks: `j < a ∨ a + n ≤ j` says that `j` lies outside the block `[a, a + n)`. -/

theorem block_succ {a n L : Nat} (h : a + (n + 1) ≤ L) : a < L ∧ a + 1 + n ≤ L := by omega

theorem out_succ {a n j : Nat} (h : j < a ∨ a + (n + 1) ≤ j) : a ≠ j ∧ (j < a + 1 ∨ a + 1 + n ≤ j) := by omega

theorem out_last {a n j : Nat} (h : j < a ∨ a + (n + 1) ≤ j) : a + n ≠ j ∧ (j < a ∨ a + n ≤ j) := by omega

theorem out_ne {a n j i : Nat} (h : j < a ∨ a + n ≤ j) (hi : i < n) : a + i ≠ j := by omega

/-- a forward loop may overwrite `d` after reading `s`: `d` is none of the later sources -/
theorem fwd_safe_succ {s d n : Nat} (h : d ≤ s ∨ s + (n + 1) ≤ d) :
    (d + 1 ≤ s + 1 ∨ s + 1 + n ≤ d + 1) ∧ (d < s + 1 ∨ s + 1 + n ≤ d) := by omega

/-- a backward loop may overwrite `d + n` after reading `s + n`: `d + n` is none of the earlier sources -/
theorem bwd_safe_succ {s d n : Nat} (h : s ≤ d ∨ d + (n + 1) ≤ s) : (s ≤ d ∨ d + n ≤ s) ∧ (d + n < s ∨ s + n ≤ d + n) := by omega

theorem disjoint_succ {a b n : Nat} (h : a + (n + 1) ≤ b ∨ b + (n + 1) ≤ a) :
    (a + 1 + n ≤ b + 1 ∨ b + 1 + n ≤ a + 1) ∧ a ≠ b ∧ (a < b + 1 ∨ b + 1 + n ≤ a) ∧ (b < a + 1 ∨ a + 1 + n ≤ b) := by omega

theorem transformProg_list (f : ρ → ρ) (xs : List ρ) (n s d : Nat) (hs : s + n ≤ xs.length) (hd : d + n ≤ xs.length)
    (hsafe : d ≤ s ∨ s + n ≤ d) :
    ∃ ys, (transformProg f n s d).runList xs = some (ys, ((d + n : Nat) : Int)) ∧ ys.length = xs.length ∧
      (∀ i, i < n → ys[d + i]? = (xs[s + i]?).map f) ∧ (∀ j, (j < d ∨ d + n ≤ j) → ys[j]? = xs[j]?) := by
  induction n generalizing xs s d with
  | zero => exact ⟨xs, rfl, rfl, fun i hi => absurd hi (Nat.not_lt_zero i), fun j _ => rfl⟩
  | succ n ih =>
    obtain ⟨hs', hs1⟩ := block_succ hs
    obtain ⟨hd', hd1⟩ := block_succ hd
    obtain ⟨hsafe1, hsrc⟩ := fwd_safe_succ hsafe
    obtain ⟨ys, hrun, hlen, hcp, hout⟩ := ih (xs.set d (f xs[s])) (s + 1) (d + 1) (List.length_set ▸ hs1)
      (List.length_set ▸ hd1) hsafe1
    refine ⟨ys, ?_, hlen.trans List.length_set, ?_, ?_⟩
    · rw [transformProg, Prog.runList_read _ (List.getElem?_eq_getElem hs'), Prog.runList_write _ _ hd', ← Int.natCast_add_one,
        ← Int.natCast_add_one, hrun, Nat.add_right_comm, Nat.add_assoc]
    · intro i hi
      cases i with
      | zero =>
        show ys[d]? = (xs[s]?).map f
        rw [hout d (Or.inl (Nat.lt_succ_self d)), List.getElem?_set_self hd', List.getElem?_eq_getElem hs']; rfl
      | succ i =>
        have hi := Nat.lt_of_succ_lt_succ hi
        rw [← Nat.add_assoc, ← Nat.add_assoc, Nat.add_right_comm d, Nat.add_right_comm s, hcp i hi,
          List.getElem?_set_ne (out_ne hsrc hi).symm]
    · intro j hj
      obtain ⟨hjd, hj1⟩ := out_succ hj
      rw [hout j hj1, List.getElem?_set_ne hjd]

/-- on independent values `*d = *s` is a read followed by a write: `copy` is `transform` with the identity -/
theorem copyProg_runList (n : Nat) (s d : Int) (xs : List ρ) :
    (copyProg n s d).runList xs = (transformProg id n s d).runList xs := by
  induction n generalizing s d xs with
  | zero => rfl
  | succ n ih =>
    simp only [copyProg, transformProg, Prog.runList]
    cases Prog.nth xs s <;> cases Prog.nth xs d <;> simp [ih]

/-- forward copy inside one sequence: safe when the destination starts at or before the source, or behind its end -/
theorem copyProg_list (xs : List ρ) (n s d : Nat) (hs : s + n ≤ xs.length) (hd : d + n ≤ xs.length)
    (hsafe : d ≤ s ∨ s + n ≤ d) :
    ∃ ys, (copyProg n s d).runList xs = some (ys, ((d + n : Nat) : Int)) ∧ ys.length = xs.length ∧
      (∀ i, i < n → ys[d + i]? = xs[s + i]?) ∧ (∀ j, (j < d ∨ d + n ≤ j) → ys[j]? = xs[j]?) := by
  obtain ⟨ys, h1, h2, h3, h4⟩ := transformProg_list id xs n s d hs hd hsafe
  exact ⟨ys, (copyProg_runList n s d xs).trans h1, h2, fun i hi => (h3 i hi).trans Option.map_id_apply, h4⟩

/-- backward copy of the block `[s, s + n)` to `[d, d + n)`, last element first -/
theorem copyBackwardProg_run (xs : List ρ) (n s d : Nat) (hs : s + n ≤ xs.length) (hd : d + n ≤ xs.length)
    (hsafe : s ≤ d ∨ d + n ≤ s) :
    ∃ ys, (copyBackwardProg n ((s + n : Nat) : Int) ((d + n : Nat) : Int)).runList xs = some (ys, (d : Int)) ∧
      ys.length = xs.length ∧ (∀ i, i < n → ys[d + i]? = xs[s + i]?) ∧ (∀ j, (j < d ∨ d + n ≤ j) → ys[j]? = xs[j]?) := by
  induction n generalizing xs with
  | zero => exact ⟨xs, rfl, rfl, fun i hi => absurd hi (Nat.not_lt_zero i), fun j _ => rfl⟩
  | succ n ih =>
    have hs' : s + n < xs.length := hs
    have hd' : d + n < xs.length := hd
    obtain ⟨hsafe1, hsrc⟩ := bwd_safe_succ hsafe
    obtain ⟨ys, hrun, hlen, hcp, hout⟩ := ih (xs.set (d + n) xs[s + n]) (List.length_set ▸ Nat.le_of_lt hs')
      (List.length_set ▸ Nat.le_of_lt hd') hsafe1
    refine ⟨ys, ?_, hlen.trans List.length_set, ?_, ?_⟩
    · rw [copyBackwardProg, ← Nat.add_assoc, ← Nat.add_assoc, natCast_succ_sub_one, natCast_succ_sub_one,
        Prog.runList_assign _ hd' (List.getElem?_eq_getElem hs')]
      exact hrun
    · intro i hi
      rcases Nat.lt_succ_iff_lt_or_eq.1 hi with hin | rfl
      · rw [hcp i hin, List.getElem?_set_ne (out_ne hsrc hin).symm]
      · rw [hout _ (Or.inr (Nat.le_refl _)), List.getElem?_set_self hd', List.getElem?_eq_getElem hs']
    · intro j hj
      obtain ⟨hjd, hj1⟩ := out_last hj
      rw [hout j hj1, List.getElem?_set_ne hjd]

/-- backward copy inside one sequence (`sEnd`, `dEnd` are the END positions): safe when the destination ends at or after
    the source's end, or before the source's start -/
theorem copyBackwardProg_list (xs : List ρ) (n sEnd dEnd : Nat) (hs1 : n ≤ sEnd) (hs2 : sEnd ≤ xs.length)
    (hd1 : n ≤ dEnd) (hd2 : dEnd ≤ xs.length) (hsafe : sEnd ≤ dEnd ∨ dEnd + n ≤ sEnd) :
    ∃ ys, (copyBackwardProg n sEnd dEnd).runList xs = some (ys, ((dEnd - n : Nat) : Int)) ∧ ys.length = xs.length ∧
      (∀ i, i < n → ys[dEnd - n + i]? = xs[sEnd - n + i]?) ∧ (∀ j, (j < dEnd - n ∨ dEnd ≤ j) → ys[j]? = xs[j]?) := by
  have h := copyBackwardProg_run xs n (sEnd - n) (dEnd - n)
  rw [Nat.sub_add_cancel hs1, Nat.sub_add_cancel hd1] at h
  exact h hs2 hd2 (hsafe.imp (Nat.sub_le_sub_right · n) Nat.le_sub_of_add_le)

/-- `move_backward(first, first + n, first + n + 1)`: the block moves one place to the right, over its right neighbour -/
theorem copyBackwardProg_shift (S : List ρ) (x : ρ) (R : List ρ) :
    ∃ z, (copyBackwardProg S.length (S.length : Nat) ((S.length + 1 : Nat) : Int)).runList (S ++ x :: R) = some (z :: S ++ R, 1) := by
  induction S using snoc_induction generalizing x R with
  | nil => exact ⟨x, rfl⟩
  | snoc B y ih =>
    obtain ⟨z, hz⟩ := ih y (y :: R)
    refine ⟨z, ?_⟩
    rw [List.length_append, List.length_singleton, copyBackwardProg, natCast_succ_sub_one, natCast_succ_sub_one,
      Prog.runList_assign (i := B.length + 1) _ (by simp) (by simp : (B ++ [y] ++ x :: R)[B.length]? = some y)]
    have e : (B ++ [y] ++ x :: R).set (B.length + 1) y = B ++ y :: y :: R := by simp
    rw [e, hz]; simp

theorem swapRangesProg_list (xs : List ρ) (n a b : Nat) (ha : a + n ≤ xs.length) (hb : b + n ≤ xs.length)
    (hdis : a + n ≤ b ∨ b + n ≤ a) :
    ∃ ys, (swapRangesProg n a b).runList xs = some (ys, ((b + n : Nat) : Int)) ∧ ys.length = xs.length ∧
      (∀ i, i < n → ys[a + i]? = xs[b + i]? ∧ ys[b + i]? = xs[a + i]?) ∧
      (∀ j, (j < a ∨ a + n ≤ j) → (j < b ∨ b + n ≤ j) → ys[j]? = xs[j]?) := by
  induction n generalizing xs a b with
  | zero => exact ⟨xs, rfl, rfl, fun i hi => absurd hi (Nat.not_lt_zero i), fun j _ _ => rfl⟩
  | succ n ih =>
    obtain ⟨ha', ha1⟩ := block_succ ha
    obtain ⟨hb', hb1⟩ := block_succ hb
    obtain ⟨hdis1, hne, hab, hba⟩ := disjoint_succ hdis
    have hl : ((xs.set a xs[b]).set b xs[a]).length = xs.length := List.length_set.trans List.length_set
    obtain ⟨ys, hrun, hlen, hsw, hout⟩ := ih ((xs.set a xs[b]).set b xs[a]) (a + 1) (b + 1) (hl ▸ ha1) (hl ▸ hb1) hdis1
    have hset : ∀ j, a ≠ j → b ≠ j → ((xs.set a xs[b]).set b xs[a])[j]? = xs[j]? := fun j h1 h2 => by
      rw [List.getElem?_set_ne h2, List.getElem?_set_ne h1]
    have haa : a < a + 1 := Nat.lt_succ_self a
    have hbb : b < b + 1 := Nat.lt_succ_self b
    refine ⟨ys, ?_, hlen.trans hl, ?_, ?_⟩
    · rw [swapRangesProg, Prog.runList_swap _ (List.getElem?_eq_getElem ha') (List.getElem?_eq_getElem hb'),
        ← Int.natCast_add_one, ← Int.natCast_add_one, hrun, Nat.add_right_comm, Nat.add_assoc]
    · intro i hi
      cases i with
      | zero =>
        show ys[a]? = xs[b]? ∧ ys[b]? = xs[a]?
        rw [hout a (Or.inl haa) hab, hout b hba (Or.inl hbb), List.getElem?_set_ne hne.symm,
          List.getElem?_set_self ha', List.getElem?_set_self (by rw [List.length_set]; exact hb'),
          List.getElem?_eq_getElem hb', List.getElem?_eq_getElem ha']
        exact ⟨rfl, rfl⟩
      | succ i =>
        have hi := Nat.lt_of_succ_lt_succ hi
        obtain ⟨h1, h2⟩ := hsw i hi
        rw [← Nat.add_assoc, ← Nat.add_assoc, Nat.add_right_comm a, Nat.add_right_comm b, h1, h2,
          hset _ (out_ne hab hi).symm (out_ne (Or.inl hbb) hi).symm, hset _ (out_ne (Or.inl haa) hi).symm (out_ne hba hi).symm]
        exact ⟨rfl, rfl⟩
    · intro j hj1 hj2
      obtain ⟨hja, hja1⟩ := out_succ hj1
      obtain ⟨hjb, hjb1⟩ := out_succ hj2
      rw [hout j hja1 hjb1, hset j hja hjb]

/-- in place over the whole sequence: `std::transform(first, last, first, f)` is `map f` -/
theorem transformProg_map (f : ρ → ρ) (xs : List ρ) :
    (transformProg f xs.length 0 0).runList xs = some (xs.map f, (xs.length : Int)) := by
  have h0 : 0 + xs.length ≤ xs.length := Nat.le_of_eq (Nat.zero_add _)
  obtain ⟨ys, hrun, hlen, hcp, _⟩ := transformProg_list f xs xs.length 0 0 h0 h0 (Or.inl (Nat.le_refl 0))
  have : ys = xs.map f := by
    apply List.ext_getElem?
    intro i
    by_cases hi : i < xs.length
    · have := hcp i hi
      simp only [Nat.zero_add] at this
      rw [this, List.getElem?_map]
    · rw [List.getElem?_eq_none (hlen ▸ Nat.le_of_not_lt hi), List.getElem?_map, List.getElem?_eq_none (Nat.le_of_not_lt hi)]
      rfl
  have hc : (((0 : Nat) : Int)) = 0 := rfl
  rw [← hc, hrun, this]; simp

theorem findProg_aux (p : ρ → Bool) (pre rest : List ρ) :
    (findProg p rest.length pre.length).runList (pre ++ rest)
      = some (pre ++ rest, ((pre.length + rest.findIdx p : Nat) : Int)) := by
  induction rest generalizing pre with
  | nil => rfl
  | cons a rest ih =>
    rw [List.length_cons, findProg, Prog.runList_read_mid, List.findIdx_cons]
    cases p a with
    | true => rfl
    | false =>
      rw [if_neg Bool.false_ne_true, natCast_length_snoc pre a, List.append_cons pre a rest, ih, List.length_append]
      simp only [List.length_singleton, cond_false, Nat.add_assoc, Nat.add_comm 1]

theorem findProg_list (p : ρ → Bool) (xs : List ρ) :
    (findProg p xs.length 0).runList xs = some (xs, ((xs.findIdx p : Nat) : Int)) := by
  simpa using findProg_aux p [] xs

theorem seg_zero (xs : List ρ) (a : Nat) : seg xs a 0 = [] := by simp [seg]

theorem seg_succ (xs : List ρ) (a n : Nat) (h : a + (n + 1) ≤ xs.length) :
    ∃ x, xs[a]? = some x ∧ seg xs a (n + 1) = x :: seg xs (a + 1) n ∧ a + 1 + n ≤ xs.length := by
  obtain ⟨ha, h1⟩ := block_succ h
  refine ⟨xs[a], List.getElem?_eq_getElem ha, ?_, h1⟩
  unfold seg
  rw [List.drop_eq_getElem_cons ha, List.take_succ_cons]

theorem equalProg_list (eq : ρ → ρ → Bool) (xs : List ρ) (n a b : Nat) (ha : a + n ≤ xs.length) (hb : b + n ≤ xs.length) :
    (equalProg eq n a b).runList xs
      = some (xs, if ((seg xs a n).zip (seg xs b n)).all (fun q => eq q.1 q.2) then 1 else 0) := by
  induction n generalizing a b with
  | zero => rw [seg_zero]; rfl
  | succ n ih =>
    obtain ⟨x, hx, ex, ha'⟩ := seg_succ xs a n ha
    obtain ⟨y, hy, ey, hb'⟩ := seg_succ xs b n hb
    rw [equalProg, Prog.runList_read _ hx, Prog.runList_read _ hy, ex, ey, List.zip_cons_cons, List.all_cons]
    cases eq x y with
    | true => rw [if_pos rfl, ← Int.natCast_add_one, ← Int.natCast_add_one, ih _ _ ha' hb', Bool.true_and]
    | false => rfl

theorem accumulateProg_aux (op : Int → ρ → Int) (pre rest : List ρ) (acc : Int) :
    (accumulateProg op rest.length pre.length acc).runList (pre ++ rest) = some (pre ++ rest, rest.foldl op acc) := by
  induction rest generalizing pre acc with
  | nil => rfl
  | cons a rest ih =>
    rw [List.length_cons, accumulateProg, Prog.runList_read_mid, natCast_length_snoc pre a, List.append_cons pre a rest, ih]
    rfl

theorem accumulateProg_list (op : Int → ρ → Int) (xs : List ρ) (init : Int) :
    (accumulateProg op xs.length 0 init).runList xs = some (xs, xs.foldl op init) := by
  simpa using accumulateProg_aux op [] xs init

theorem isSortedLoop_aux (lt : ρ → ρ → Bool) (pre : List ρ) (a : ρ) (rest : List ρ) :
    (isSortedLoop lt rest.length pre.length).runList (pre ++ a :: rest)
      = some (pre ++ a :: rest, if adjSorted lt (a :: rest) then 1 else 0) := by
  induction rest generalizing pre a with
  | nil => rfl
  | cons b rest ih =>
    rw [List.length_cons, isSortedLoop, natCast_length_snoc pre a, List.append_cons pre a (b :: rest), Prog.runList_read_mid,
      ← List.append_cons pre a (b :: rest), Prog.runList_read_mid, adjSorted]
    cases lt b a with
    | true => rfl
    | false => rw [if_neg Bool.false_ne_true, List.append_cons pre a (b :: rest), ih]; rfl

theorem isSortedProg_list (lt : ρ → ρ → Bool) (xs : List ρ) :
    (isSortedProg lt xs.length).runList xs = some (xs, if adjSorted lt xs then 1 else 0) := by
  cases xs with
  | nil => rfl
  | cons a rest => exact isSortedLoop_aux lt [] a rest

theorem lexCompareProg_list (lt : ρ → ρ → Bool) (xs : List ρ) (n1 n2 a b : Nat) (ha : a + n1 ≤ xs.length) (hb : b + n2 ≤ xs.length) :
    (lexCompareProg lt n1 n2 a b).runList xs
      = some (xs, if listLex lt (seg xs a n1) (seg xs b n2) then 1 else 0) := by
  induction n1 generalizing n2 a b with
  | zero =>
    cases n2 with
    | zero => rw [seg_zero, seg_zero]; rfl
    | succ n2 =>
      obtain ⟨y, _, ey, _⟩ := seg_succ xs b n2 hb
      rw [seg_zero, ey]; rfl
  | succ n1 ih =>
    obtain ⟨x, hx, ex, ha'⟩ := seg_succ xs a n1 ha
    cases n2 with
    | zero => rw [seg_zero, ex]; rfl
    | succ n2 =>
      obtain ⟨y, hy, ey, hb'⟩ := seg_succ xs b n2 hb
      rw [lexCompareProg, Prog.runList_read _ hx, Prog.runList_read _ hy, ex, ey, listLex]
      cases lt x y with
      | true => rfl
      | false =>
        cases lt y x with
        | true => rfl
        | false =>
          rw [if_neg Bool.false_ne_true, if_neg Bool.false_ne_true, ← Int.natCast_add_one, ← Int.natCast_add_one,
            ih n2 _ _ ha' hb']
          rfl

/-- the outcome of a compacting loop (`remove_if`, `unique`) on `xs`: the kept elements in front, the returned position
    behind them, the length unchanged -/
def KeepPost (kept xs : List ρ) (r : Option (List ρ × Int)) : Prop :=
  ∃ tl, r = some (kept ++ tl, ((kept.length : Nat) : Int)) ∧ (kept ++ tl).length = xs.length

theorem KeepPost.list {kept xs : List ρ} {r : Option (List ρ × Int)} (h : KeepPost kept xs r) :
    ∃ ys, r = some (ys, ((kept.length : Nat) : Int)) ∧ ys.length = xs.length ∧ ys.take kept.length = kept :=
  let ⟨_, h1, h2⟩ := h
  ⟨_, h1, h2, List.take_left⟩

theorem KeepPost.of_length {kept xs xs' : List ρ} {r : Option (List ρ × Int)} (h : KeepPost kept xs r)
    (hl : xs.length = xs'.length) : KeepPost kept xs' r :=
  let ⟨tl, h1, h2⟩ := h
  ⟨tl, h1, h2.trans hl⟩

/-- second phase of `remove_if` at `(i, r)`, `r < i`: the list is `kept ++ G ++ rest` with the gap `G` not empty, the kept
    elements of `rest` are appended to `kept` -/
theorem removeLoop_aux (p : ρ → Bool) (kept G rest : List ρ) (hG : G ≠ []) :
    KeepPost (kept ++ rest.filter fun x => !p x) (kept ++ G ++ rest)
      ((removeLoop p rest.length ((kept ++ G).length : Nat) (kept.length : Nat)).runList (kept ++ G ++ rest)) := by
  induction rest generalizing kept G with
  | nil => exact ⟨G, by simp [removeLoop, Prog.runList], by simp⟩
  | cons x rest ih =>
    rw [List.length_cons, removeLoop, Prog.runList_read_mid, natCast_length_snoc _ x]
    cases hp : p x with
    | true =>
      rw [if_pos rfl, List.filter_cons_of_neg (by simp [hp]), List.append_cons _ x rest, List.append_assoc kept G]
      exact ih kept (G ++ [x]) (by simp)
    | false =>
      obtain ⟨g, G, rfl⟩ := List.exists_cons_of_ne_nil hG
      rw [if_neg Bool.false_ne_true, List.filter_cons_of_pos (by simp [hp]), natCast_length_snoc kept x,
        Prog.runList_assign _ (by simp) (getElem?_append_length _ x rest), List.append_cons kept x]
      have e : (kept ++ g :: G ++ x :: rest).set kept.length x = kept ++ [x] ++ (G ++ [x]) ++ rest := by simp
      have el : (kept ++ g :: G ++ [x]).length = (kept ++ [x] ++ (G ++ [x])).length := by simp
      rw [e, el]
      exact (ih (kept ++ [x]) (G ++ [x]) (by simp)).of_length (by simp)

theorem removeFind_aux (p : ρ → Bool) (pre rest : List ρ) :
    KeepPost (pre ++ rest.filter fun x => !p x) (pre ++ rest)
      ((removeFind p rest.length (pre.length : Nat)).runList (pre ++ rest)) := by
  induction rest generalizing pre with
  | nil => exact ⟨[], by simp [removeFind, Prog.runList], by simp⟩
  | cons x rest ih =>
    rw [List.length_cons, removeFind, Prog.runList_read_mid, natCast_length_snoc pre x, List.append_cons pre x rest]
    cases hp : p x with
    | true =>
      rw [if_pos rfl, List.filter_cons_of_neg (by simp [hp])]
      exact removeLoop_aux p pre [x] rest (List.cons_ne_nil x [])
    | false =>
      rw [if_neg Bool.false_ne_true, List.filter_cons_of_pos (by simp [hp]), List.append_cons pre x (List.filter _ rest)]
      exact ih (pre ++ [x])

/-- `remove_if`: the kept elements, in order, form the prefix of the result up to the returned position (what lies
    behind is unspecified by the standard — here: old values) -/
theorem removeProg_list (p : ρ → Bool) (xs : List ρ) :
    ∃ ys, (removeProg p xs.length).runList xs = some (ys, (((xs.filter fun x => !p x).length : Nat) : Int)) ∧
      ys.length = xs.length ∧ ys.take (xs.filter fun x => !p x).length = xs.filter fun x => !p x :=
  (removeFind_aux p [] xs).list

def PartPost (p : ρ → Bool) (xs : List ρ) (r : Option (List ρ × Int)) : Prop :=
  ∃ A' B', r = some (A' ++ B', ((A'.length : Nat) : Int)) ∧ (∀ a ∈ A', p a = true) ∧ (∀ b ∈ B', p b = false) ∧
    (A' ++ B').Perm xs

theorem PartPost.of_perm {p : ρ → Bool} {xs xs' : List ρ} {r : Option (List ρ × Int)} (h : PartPost p xs' r)
    (hp : xs'.Perm xs) : PartPost p xs r := by
  obtain ⟨A', B', h1, h2, h3, h4⟩ := h
  exact ⟨A', B', h1, h2, h3, h4.trans hp⟩

/-- the two loops of `__partition` on `A ++ M ++ B` (`partFwd`, `lo` at the start of `M`, `hi` at its end) resp.
    `A ++ x :: M ++ B` (`partBwd`, `lo` at `x`, `hi` at the last element of `x :: M`): `A` satisfies `p`, `B` and `x` do not;
    the loop counter is one more than the length of `M` -/
theorem part_aux (p : ρ → Bool) (n : Nat) :
    (∀ A M B : List ρ, M.length = n → (∀ a ∈ A, p a = true) → (∀ b ∈ B, p b = false) →
      PartPost p (A ++ M ++ B)
        ((partFwd p (M.length + 1) (A.length : Nat) ((A ++ M).length : Nat)).runList (A ++ M ++ B))) ∧
    (∀ (A M B : List ρ) (x : ρ), M.length = n → (∀ a ∈ A, p a = true) → (∀ b ∈ B, p b = false) → p x = false →
      PartPost p (A ++ x :: M ++ B)
        ((partBwd p (M.length + 1) (A.length : Nat) ((A ++ M).length : Nat)).runList (A ++ x :: M ++ B))) := by
  induction n with
  | zero =>
    constructor
    · intro A M B hM hA hB
      obtain rfl := List.eq_nil_of_length_eq_zero hM
      rw [partFwd, if_pos (by rw [List.append_nil])]
      exact ⟨A, B, by simp [Prog.runList], hA, hB, by simp⟩
    · intro A M B x hM hA hB hx
      obtain rfl := List.eq_nil_of_length_eq_zero hM
      rw [partBwd, if_pos (by rw [List.append_nil])]
      exact ⟨A, x :: B, by simp [Prog.runList], hA, List.forall_mem_cons.2 ⟨hx, hB⟩, by simp⟩
  | succ n ih =>
    obtain ⟨ihF, ihB⟩ := ih
    constructor
    · intro A M B hM hA hB
      cases M with
      | nil => simp at hM
      | cons x M =>
        rw [List.length_cons, partFwd, if_neg (natCast_length_ne A x M), Prog.runList_read (x := x) _ (by simp)]
        cases hp : p x with
        | true =>
          rw [if_pos rfl, natCast_length_snoc A x, List.append_cons A x M]
          exact ihF (A ++ [x]) M B (Nat.succ.inj hM) (forall_mem_snoc hA hp) hB
        | false =>
          rw [if_neg Bool.false_ne_true, natCast_length_sub_one]
          exact ihB A M B x (Nat.succ.inj hM) hA hB hp
    · intro A M B x hM hA hB hx
      induction M using snoc_induction with
      | nil => simp at hM
      | snoc M y _ =>
        have hM' : M.length = n := by simpa using hM
        have hhi : (A ++ (M ++ [y])).length = (A ++ x :: M).length := by simp
        have hxs : A ++ x :: (M ++ [y]) ++ B = A ++ x :: M ++ y :: B := by simp
        rw [List.length_append, List.length_singleton, hhi, hxs, partBwd, if_neg (natCast_length_ne A x M),
          Prog.runList_read_mid]
        cases hp : p y with
        | true =>
          have e : (A ++ x :: M).length = (A ++ [y] ++ M).length := by simp
          rw [if_pos rfl, Prog.runList_swap_mid, natCast_length_snoc A y, e, List.append_cons A y M]
          refine (ihF (A ++ [y]) M (x :: B) hM' (forall_mem_snoc hA hp) (List.forall_mem_cons.2 ⟨hx, hB⟩)).of_perm ?_
          simp only [List.append_assoc, List.cons_append]
          exact List.Perm.append_left _
            ((List.perm_middle.cons y).trans ((List.Perm.swap x y _).trans (List.perm_middle.cons x).symm))
        | false =>
          rw [if_neg Bool.false_ne_true, natCast_length_sub_one]
          exact ihB A M (y :: B) x hM' hA (List.forall_mem_cons.2 ⟨hp, hB⟩) hx

/-- `std::partition(first, first + n, p)`: the result is a permutation of the input, the returned position is the number
    of elements satisfying `p`, everything before it satisfies `p`, nothing from it on does -/
theorem partitionProg_list (p : ρ → Bool) (xs : List ρ) :
    ∃ ys, (partitionProg p xs.length).runList xs = some (ys, (((xs.filter p).length : Nat) : Int)) ∧
      ys.Perm xs ∧ (∀ a ∈ ys.take (xs.filter p).length, p a = true) ∧ (∀ b ∈ ys.drop (xs.filter p).length, p b = false) := by
  have h := (part_aux p xs.length).1 [] xs [] rfl (by simp) (by simp)
  rw [List.append_nil, List.nil_append] at h
  obtain ⟨A', B', h1, h2, h3, h4⟩ := h
  have hk : (xs.filter p).length = A'.length := by
    rw [← (h4.filter p).length_eq, List.filter_append, List.filter_eq_self.2 h2,
      List.filter_eq_nil_iff.2 (fun b hb => by simp [h3 b hb]), List.append_nil]
  rw [hk]
  exact ⟨A' ++ B', h1, h4, by rwa [List.take_left], by rwa [List.drop_left]⟩

/-- second phase of `unique` at `(d, i)`: the list is `K ++ a :: G ++ rest` with `a` the last kept element (at `d`) and `G`
    the gap behind it, not empty, its last element at `i = (K ++ G).length`; the elements of `rest` not equal to the last
    kept one are appended -/
theorem uniqueLoop_aux (eq : ρ → ρ → Bool) (K : List ρ) (a : ρ) (G rest : List ρ) (hG : G ≠ []) :
    KeepPost (K ++ a :: uniqAfter eq a rest) (K ++ a :: G ++ rest)
      ((uniqueLoop eq rest.length (K.length : Nat) ((K ++ G).length : Nat)).runList (K ++ a :: G ++ rest)) := by
  induction rest generalizing K a G with
  | nil => exact ⟨G, by simp [uniqueLoop, Prog.runList, uniqAfter], by simp [uniqAfter]⟩
  | cons b rest ih =>
    have hi : (((K ++ G).length : Nat) : Int) + 1 = ((K ++ a :: G).length : Nat) := by simp; omega
    rw [List.length_cons, uniqueLoop, Prog.runList_read (x := a) _ (by simp), hi, Prog.runList_read_mid, uniqAfter]
    cases he : eq a b with
    | true =>
      rw [if_pos rfl, if_pos rfl]
      simpa using ih K a (G ++ [b]) (by simp)
    | false =>
      obtain ⟨g, G, rfl⟩ := List.exists_cons_of_ne_nil hG
      rw [if_neg Bool.false_ne_true, if_neg Bool.false_ne_true, natCast_length_snoc K a,
        Prog.runList_assign _ (by simp) (getElem?_append_length _ b rest), List.append_cons K a (b :: uniqAfter eq b rest)]
      have e : (K ++ a :: g :: G ++ b :: rest).set (K ++ [a]).length b = K ++ [a] ++ b :: (G ++ [b]) ++ rest := by simp
      have el : (K ++ a :: g :: G).length = (K ++ [a] ++ (G ++ [b])).length := by simp
      rw [e, el]
      exact (ih (K ++ [a]) b (G ++ [b]) (by simp)).of_length (by simp)

theorem uniqueFind_aux (eq : ρ → ρ → Bool) (P : List ρ) (a : ρ) (rest : List ρ) :
    KeepPost (P ++ a :: uniqAfter eq a rest) (P ++ a :: rest)
      ((uniqueFind eq rest.length ((P.length : Nat) : Int)).runList (P ++ a :: rest)) := by
  induction rest generalizing P a with
  | nil => exact ⟨[], by simp [uniqueFind, Prog.runList, uniqAfter], by simp [uniqAfter]⟩
  | cons b rest ih =>
    rw [List.length_cons, uniqueFind, Prog.runList_read_mid, natCast_length_snoc P a, List.append_cons P a (b :: rest),
      Prog.runList_read_mid, uniqAfter]
    cases he : eq a b with
    | true =>
      rw [if_pos rfl, if_pos rfl]
      simpa using uniqueLoop_aux eq P a [b] rest (List.cons_ne_nil b [])
    | false =>
      rw [if_neg Bool.false_ne_true, if_neg Bool.false_ne_true, List.append_cons P a (b :: uniqAfter eq b rest)]
      exact ih (P ++ [a]) b

/-- `std::unique(first, first + n, eq)`: the prefix up to the returned position is the input with every element equal
    (under `eq`) to the last kept one dropped; what lies behind is unspecified (here: old values) -/
theorem uniqueProg_list (eq : ρ → ρ → Bool) (xs : List ρ) :
    ∃ ys, (uniqueProg eq xs.length).runList xs = some (ys, (((uniq eq xs).length : Nat) : Int)) ∧
      ys.length = xs.length ∧ ys.take (uniq eq xs).length = uniq eq xs := by
  cases xs with
  | nil => exact ⟨[], rfl, rfl, rfl⟩
  | cons a rest => exact (uniqueFind_aux eq [] a rest).list

theorem Prog.runList_andThen (p k : Prog ρ) (xs : List ρ) :
    (p.andThen k).runList xs = (p.runList xs).bind fun r => k.runList r.1 := by
  induction p generalizing xs with
  | ret pos => rfl
  | read i f ih => simp only [Prog.andThen, Prog.runList_read_bind, ih, Option.bind_assoc]
  | write i x p ih => simp only [Prog.andThen, Prog.runList_write_bind, ih, Option.bind_assoc]
  | assign i j p ih => simp only [Prog.andThen, Prog.runList_assign_bind, ih, Option.bind_assoc]
  | swap i j p ih => simp only [Prog.andThen, Prog.runList_swap_bind, ih, Option.bind_assoc]

/-- `__unguarded_linear_insert` at the hole `h` behind `a0 :: A`: the guard `a0` is not above `val`; `val` ends up behind the
    last element of `a0 :: A` that is not above it -/
theorem linInsert_run (lt : ρ → ρ → Bool) (val : ρ) (k : Prog ρ) (a0 : ρ) (h0 : lt val a0 = false) (A : List ρ) :
    ∀ (h : ρ) (T : List ρ), ∃ A1 A2, a0 :: A = A1 ++ A2 ∧ (∀ y ∈ A2, lt val y = true) ∧
      (∀ y, A1.getLast? = some y → lt val y = false) ∧
      (linInsert lt val k (a0 :: A).length ((a0 :: A).length : Nat)).runList (a0 :: A ++ h :: T)
        = k.runList (A1 ++ val :: A2 ++ T) := by
  induction A using snoc_induction with
  | nil =>
    intro h T
    refine ⟨[a0], [], rfl, by simp, by simp [h0], ?_⟩
    show (Prog.read (((0 : Nat) : Int)) _).runList _ = _
    rw [Prog.runList_read (x := a0) _ rfl, h0]
    exact Prog.runList_write (i := 1) _ _ (by simp)
  | snoc B y ih =>
    intro h T
    have hy : (a0 :: (B ++ [y]) ++ h :: T)[(a0 :: B).length]? = some y := by simp
    have hl : (a0 :: (B ++ [y])).length = (a0 :: B).length + 1 := by simp
    rw [hl, linInsert, natCast_succ_sub_one, Prog.runList_read _ hy]
    cases hlt : lt val y with
    | true =>
      obtain ⟨A1, A2, e, h2, h3, hrun⟩ := ih y (y :: T)
      refine ⟨A1, A2 ++ [y], by rw [← List.append_assoc, ← e]; rfl, forall_mem_snoc h2 hlt, h3, ?_⟩
      rw [if_pos rfl, Prog.runList_assign _ (by simp) hy, ← hl, set_append_length]
      simpa using hrun
    | false =>
      refine ⟨a0 :: B ++ [y], [], by simp, by simp, ?_, ?_⟩
      · intro z hz
        rw [List.getLast?_concat] at hz
        rw [← Option.some.inj hz]; exact hlt
      · rw [if_neg Bool.false_ne_true, Prog.runList_write _ _ (by simp), ← hl, set_append_length]; simp

/-- inserting `x` between the part of a sorted list not above it and the part above it keeps the list sorted -/
theorem pairwise_insert (lt : ρ → ρ → Bool) (hasym : ∀ a b, lt a b = true → lt b a = false)
    (htr : ∀ a b c, lt b a = false → lt c b = false → lt c a = false) (A1 A2 : List ρ) (x : ρ)
    (hs : (A1 ++ A2).Pairwise fun a b => lt b a = false) (h2 : ∀ y ∈ A2, lt x y = true)
    (h3 : ∀ y, A1.getLast? = some y → lt x y = false) :
    (A1 ++ x :: A2).Pairwise fun a b => lt b a = false := by
  rw [List.pairwise_append] at hs ⊢
  obtain ⟨p1, p2, p12⟩ := hs
  refine ⟨p1, List.pairwise_cons.2 ⟨fun b hb => hasym _ _ (h2 b hb), p2⟩, ?_⟩
  intro a ha b hb
  rcases List.mem_cons.1 hb with rfl | hb
  · rcases List.eq_nil_or_concat A1 with rfl | ⟨B, l, rfl⟩
    · simp at ha
    · rw [List.concat_eq_append] at ha p1 h3
      have hl : lt b l = false := h3 l (by simp)
      rcases List.mem_append.1 ha with ha | ha
      · have : lt l a = false := (List.pairwise_append.1 p1).2.2 a ha l (by simp)
        exact htr a l b this hl
      · simp at ha; subst ha; exact hl
  · exact p12 a ha b hb

/-- one round of `__insertion_sort`: `x`, the element behind the sorted prefix `s0 :: S`, is inserted into it at a place that
    keeps it sorted (in front if `x` is below `s0`, else by `__unguarded_linear_insert`) -/
theorem insSortLoop_step (lt : ρ → ρ → Bool) (hasym : ∀ a b, lt a b = true → lt b a = false)
    (htr : ∀ a b c, lt b a = false → lt c b = false → lt c a = false) (s0 : ρ) (S : List ρ) (x : ρ) (R : List ρ) (n : Nat)
    (hs : (s0 :: S).Pairwise fun a b => lt b a = false) :
    ∃ A1 A2, s0 :: S = A1 ++ A2 ∧ ((A1 ++ x :: A2).Pairwise fun a b => lt b a = false) ∧
      (insSortLoop lt (n + 1) (((s0 :: S).length : Nat) : Int)).runList (s0 :: S ++ x :: R)
        = (insSortLoop lt n (((A1 ++ x :: A2).length : Nat) : Int)).runList (A1 ++ x :: A2 ++ R) := by
  rw [insSortLoop, Prog.runList_read_mid, List.cons_append, Prog.runList_read_zero, ← List.cons_append, ← Int.natCast_add_one,
    Int.toNat_natCast]
  cases hlt : lt x s0 with
  | true =>
    refine ⟨[], s0 :: S, rfl, List.pairwise_cons.2 ⟨?_, hs⟩, ?_⟩
    · intro b hb
      rcases List.mem_cons.1 hb with rfl | hb
      · exact hasym _ _ hlt
      · exact htr x s0 b (hasym _ _ hlt) ((List.pairwise_cons.1 hs).1 b hb)
    · obtain ⟨z, hz⟩ := copyBackwardProg_shift (s0 :: S) x R
      rw [if_pos rfl, Prog.runList_andThen, hz]
      rfl
  | false =>
    obtain ⟨A1, A2, e, h2, h3, hrun⟩ := linInsert_run lt x (insSortLoop lt n (((s0 :: S).length + 1 : Nat) : Int))
      s0 hlt S x R
    refine ⟨A1, A2, e, pairwise_insert lt hasym htr A1 A2 x (e ▸ hs) h2 h3, ?_⟩
    rw [if_neg Bool.false_ne_true, hrun, e]
    simp [Nat.add_assoc]

theorem insSortLoop_aux (lt : ρ → ρ → Bool) (hasym : ∀ a b, lt a b = true → lt b a = false)
    (htr : ∀ a b c, lt b a = false → lt c b = false → lt c a = false) (R : List ρ) :
    ∀ S : List ρ, S ≠ [] → (S.Pairwise fun a b => lt b a = false) →
      ∃ ys, (insSortLoop lt R.length ((S.length : Nat) : Int)).runList (S ++ R) = some (ys, 0) ∧ ys.Perm (S ++ R) ∧
        ys.Pairwise fun a b => lt b a = false := by
  induction R with
  | nil => intro S _ hs; exact ⟨S, by simp [insSortLoop, Prog.runList], by simp, hs⟩
  | cons x R ih =>
    intro S hne hs
    cases S with
    | nil => exact absurd rfl hne
    | cons s0 S =>
      obtain ⟨A1, A2, e, hs', hrun⟩ := insSortLoop_step lt hasym htr s0 S x R R.length hs
      obtain ⟨zs, h1, h2, h3⟩ := ih (A1 ++ x :: A2) (by simp) hs'
      refine ⟨zs, hrun.trans h1, h2.trans ?_, h3⟩
      rw [e, List.append_assoc, List.append_assoc]
      exact List.Perm.append_left _ List.perm_middle.symm

/-- `std::sort` on at most 16 values (`__insertion_sort`), `lt` a strict weak order (asymmetric, `¬ lt` transitive): the result
    is a sorted permutation of the input -/
theorem insertionSortProg_list (lt : ρ → ρ → Bool) (hasym : ∀ a b, lt a b = true → lt b a = false)
    (htr : ∀ a b c, lt b a = false → lt c b = false → lt c a = false) (xs : List ρ) :
    ∃ ys, (insertionSortProg lt xs.length).runList xs = some (ys, 0) ∧ ys.Perm xs ∧
      ys.Pairwise fun a b => lt b a = false := by
  cases xs with
  | nil => exact ⟨[], rfl, .nil, .nil⟩
  | cons a R => exact insSortLoop_aux lt hasym htr R [a] (List.cons_ne_nil a []) (List.pairwise_singleton _ a)

end Multi
