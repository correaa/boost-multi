/-
  MultiProofs.ElemSpec — the address sequence of an `elements()` iterator: what the loops over `elements()` (storage
  operations, serialization, MPI messages) are specified against.
-/
import MultiModel.Iter

namespace Multi

/-- the addresses an elements iterator visits in `n` steps of `++` (all `n` increments are performed, as in the
    library's loops; `none` if one of them is) -/
def ElemIt.addrs : Nat → ElemIt → Option (List Int)
  | 0, _ => some []
  | n + 1, it => do
    let it' ← it.inc
    let rest ← addrs n it'
    pure (it.current :: rest)

end Multi
