/-
  MultiProofs.GenTieIter — the hand-written model of iterators and flat element ranges (`MultiModel/Iter.lean`, the
  `Exts.*` counter functions of `MultiModel/Layout.lean`) EQUALS the definitions regenerated from the current headers by
  tools/gen_iters.py (`MultiModel/Gen/IterGen.lean`), function by function.  Proof obligations of C02 (and C03, C05, C19
  through it): when the source of one of these functions changes, the corresponding theorem stops checking.
-/
import MultiModel.Gen.IterGen
import MultiProofs.TieLemmas

namespace Multi.GenTieIter
open Multi Multi.Gen

/-! ### `extensions_t<D>`: the mixed-radix counter -/

/-- D > 1: one unfolding of `from_linear` with the recursive call interpreted by the model; the code asserts that the
    tail holds at least one element (the model answers `none` otherwise) -/
theorem X_from_linear_tie (e e1 : Ext) (es : List Ext) (n : Int)
    (h : X_from_linear_asserts (e :: e1 :: es) n = true) :
    X_from_linear (e :: e1 :: es) n = Exts.fromLinear (e :: e1 :: es) n := by
  simp only [X_from_linear_asserts, List.tail_cons, bne_iff_ne, ne_eq] at h
  simp only [X_from_linear, List.tail_cons, Exts.fromLinear, h, if_false, Option.bind_some_eq_map]

theorem X_from_linear_asserts_tie (e e1 : Ext) (es : List Ext) (n : Int) :
    X_from_linear_asserts (e :: e1 :: es) n = (Exts.numElements (e1 :: es) != 0) := rfl

theorem X_to_linear_tie (e e1 : Ext) (es : List Ext) (i : Int) (rest : List Int) :
    X_to_linear (e :: e1 :: es) i rest = Exts.toLinear (e :: e1 :: es) (i :: rest) := by
  simp only [X_to_linear, Exts.toLinear, List.tail_cons, Int.mul_comm]

theorem X_next_canonical_tie (e e1 : Ext) (es : List Ext) (i : Int) (rest : List Int) :
    X_next_canonical (e :: e1 :: es) i rest = Exts.nextCanonical (e :: e1 :: es) (i :: rest) := by
  simp only [X_next_canonical, List.tail_cons, hdE_cons, Exts.nextCanonical, int_beq_comm e.last]
  cases (Exts.nextCanonical (e1 :: es) rest).2 <;> rfl

theorem X_prev_canonical_tie (e e1 : Ext) (es : List Ext) (i : Int) (rest : List Int) :
    X_prev_canonical (e :: e1 :: es) i rest = Exts.prevCanonical (e :: e1 :: es) (i :: rest) := by
  -- `rw`, not `simp only`: the `Decidable` instances inside `decide` mention `hdE (e :: _)` too
  rw [X_prev_canonical, hdE_cons, List.tail_cons]
  by_cases h : (Exts.prevCanonical (e1 :: es) rest).2 = true <;>
    simp only [Exts.prevCanonical, h, Bool.false_eq_true, ↓reduceIte, decide_eq_true_eq]

theorem X1_from_linear_tie (e : Ext) (n : Int) : some (X1_from_linear [e] n) = Exts.fromLinear [e] n := rfl
theorem X1_to_linear_tie (e : Ext) (i : Int) (rest : List Int) : X1_to_linear [e] i = Exts.toLinear [e] (i :: rest) := rfl
theorem X1_num_elements_tie (e : Ext) : X1_num_elements [e] = Exts.numElements [e] := by
  simp only [X1_num_elements, Exts.numElements, hdE_cons, Int.mul_one]
theorem X1_next_canonical_tie (e : Ext) (i : Int) (rest : List Int) :
    X1_next_canonical [e] i = Exts.nextCanonical [e] (i :: rest) := by
  simp only [X1_next_canonical, Exts.nextCanonical, hdE_cons, int_beq_comm e.back]
theorem X1_prev_canonical_tie (e : Ext) (i : Int) (rest : List Int) :
    X1_prev_canonical [e] i = Exts.prevCanonical [e] (i :: rest) := by
  simp only [X1_prev_canonical, Exts.prevCanonical, hdE_cons, int_beq_comm e.first]

/-- `extensions_t::operator==` / `!=` are tuple (in)equality of the ranges, for D > 1 and D = 1 alike -/
theorem X_eq_tie (xs ys : List Ext) :
    X_eq xs ys = Exts.eqv xs ys ∧ X_ne xs ys = !Exts.eqv xs ys ∧ X1_eq xs ys = Exts.eqv xs ys ∧ X1_ne xs ys = !Exts.eqv xs ys :=
  ⟨rfl, rfl, rfl, rfl⟩

/-! ### `array_iterator` (D > 1 and D = 1) -/

theorem I_inc_tie (it : ArrIt) : I_inc it = it.inc ∧ I1_inc it = it.inc := ⟨rfl, rfl⟩
theorem I_dec_tie (it : ArrIt) : I_dec it = it.dec ∧ I1_dec it = it.dec := ⟨rfl, rfl⟩
theorem I_add_tie (it : ArrIt) (n : Int) : I_add it n = it.add n ∧ I1_add it n = it.add n := ⟨rfl, rfl⟩
/-- D > 1: `operator-=` is `advance_(-n)`, i.e. `ptr + (-n)*stride` -/
theorem I_sub_tie (it : ArrIt) (n : Int) : I_sub it n = it.sub' n ∧ I1_sub it n = it.sub' n := by
  refine ⟨?_, rfl⟩
  rw [I_sub, ArrIt.sub', Int.neg_mul, Int.mul_comm, Int.sub_eq_add_neg]
theorem I_diff_tie (it o : ArrIt) : I_diff it o = it.diff o ∧ I1_diff it o = it.diff o := ⟨rfl, rfl⟩
/-- the D = 1 iterator asserts what the model's `diffAsserts` says; the D > 1 iterator omits the divisibility test -/
theorem I_diff_asserts_tie (it o : ArrIt) :
    I1_diff_asserts it o = it.diffAsserts o ∧
    (I_diff_asserts it o && ((it.ptr - o.ptr).tmod it.stride == 0)) = it.diffAsserts o := by
  refine ⟨?_, rfl⟩
  simp only [I1_diff_asserts, ArrIt.diffAsserts, Bool.and_comm (it.stride != 0), Bool.and_assoc]
/-- D > 1: `==` also compares the sub-layouts, which its own assertion requires to be equal; D = 1: pointer equality -/
theorem I_eq_tie (it o : ArrIt) :
    I_eq it o = (it.eq o && it.sub == o.sub) ∧ I_eq_asserts it o = it.eqAsserts o ∧
    (it.eqAsserts o = true → I_eq it o = it.eq o) ∧ I1_eq it o = it.eq o := by
  refine ⟨rfl, rfl, ?_, rfl⟩
  intro h
  simp only [ArrIt.eqAsserts, Bool.and_eq_true] at h
  simp only [I_eq, ArrIt.eq, h.2, Bool.and_true]
theorem I_lt_tie (it o : ArrIt) : I_lt it o = it.lt o ∧ I1_lt it o = it.lt o := ⟨rfl, rfl⟩
theorem I_deref_tie (it : ArrIt) : I_deref it = it.deref ∧ (it.sub = [] → I1_deref it = it.deref) := by
  refine ⟨rfl, ?_⟩
  intro h
  rw [I1_deref, ArrIt.deref, h]
theorem I_at_tie (it : ArrIt) (n : Int) : I_at it n = it.at' n ∧ I1_at it n = it.at' n := ⟨rfl, rfl⟩

/-! ### `elements_iterator_t`, `elements_range_t` -/

theorem E_ctor_tie (base : Int) (lyt : Layout) (n : Int) : E_ctor base lyt n = ElemRange.mkIt ⟨base, lyt⟩ n :=
  Option.bind_some_eq_map _ _
theorem ER_ctor_tie (v : View) : ER_ctor v.base v.lay = ElemRange.ofView v := rfl
theorem E_from_linear_tie (it : ElemIt) (n : Int) : E_from_linear it n = ElemRange.fromLinearG it.xs n := by
  simp only [E_from_linear, ElemRange.fromLinearG, beq_iff_eq, Option.bind_fun_some]
/-- copy assignment copies every member (and is the identity on self-assignment) -/
theorem E_assign_tie (it o : ElemIt) : E_assign it o false = ElemIt.assign it o ∧ E_assign it it true = it := ⟨rfl, rfl⟩
theorem E_inc_tie (it : ElemIt) : E_inc it = it.inc := by
  simp only [E_inc, ElemIt.inc, Option.bind_some_eq_map]
theorem E_dec_tie (it : ElemIt) : E_dec it = it.dec := rfl
theorem E_add_tie (it : ElemIt) (k : Int) : E_add it k = it.add k := Option.bind_some_eq_map _ _
theorem E_sub_tie (it : ElemIt) (k : Int) : E_sub it k = it.sub' k := Option.bind_some_eq_map _ _
theorem E_diff_tie (it o : ElemIt) : E_diff it o = it.diff o := rfl
theorem E_lt_tie (it o : ElemIt) : E_lt it o = it.lt o := rfl
theorem E_eq_tie (it o : ElemIt) : E_eq it o = it.eq o := rfl
theorem E_deref_tie (it : ElemIt) : E_deref it = it.current ∧ E_current it = it.current :=
  ⟨rfl, Int.add_comm _ _⟩
theorem E_at_tie (it : ElemIt) (k : Int) : E_at it k = it.at' k := Option.bind_some_eq_map _ _
/-- `-`, `<`, `==` of element iterators assert one common range (same base, same layout) -/
theorem E_compare_asserts_tie (it o : ElemIt) :
    E_diff_asserts it o = (it.base == o.base && it.lay == o.lay) ∧ E_lt_asserts it o = (it.base == o.base && it.lay == o.lay) ∧
    E_eq_asserts it o = (it.base == o.base && it.lay == o.lay) := ⟨rfl, rfl, rfl⟩

theorem ER_at_aux_tie (r : ElemRange) (n : Int) : ER_at_aux r n = r.at' n := Option.bind_some_eq_map _ _
theorem ER_at_aux_asserts_tie (r : ElemRange) (n : Int) : ER_at_aux_asserts r n = !r.isEmpty := rfl
theorem ER_size_tie (r : ElemRange) : ER_size r = r.size := rfl
theorem ER_is_empty_tie (r : ElemRange) : ER_is_empty r = r.isEmpty := rfl
theorem ER_begin_end_tie (r : ElemRange) : ER_begin_aux r = r.begin' ∧ ER_end_aux r = r.end' :=
  ⟨Option.bind_fun_some _, Option.bind_fun_some _⟩

/-! ### cursors -/

/-- `cursor_t::operator[]` for every D ≥ 1 and `home_aux_()` -/
theorem cursor_is_the_code (b : Int) (s0 : Int) (ss : List Int) (n : Int) (v : View) :
    CU_index ⟨b, s0 :: ss⟩ n = Cursor.index ⟨b, s0 :: ss⟩ n ∧ V_home_aux v = v.home := by
  refine ⟨?_, rfl⟩
  cases ss with
  | nil => rfl
  | cons s1 ss =>
    simp only [CU_index, Cursor.index, bne_iff_ne, ne_eq, Int.ne_of_gt (two_levels s0 s1 ss), not_false_eq_true, if_true,
      Int.add_comm]

/-- indexing a cursor by a full tuple adds the products stride × index; `acc` is the running sum of the closed form -/
theorem indexAll_base (ss idx : List Int) (b acc : Int) (h : idx.length = ss.length) :
    ((Cursor.mk b ss).indexAll idx).base + acc = b + ((ss.zip idx).map fun (p : Int × Int) => p.1 * p.2).foldl (· + ·) acc := by
  induction ss generalizing idx b acc with
  | nil => cases idx with
    | nil => rfl
    | cons i idx => cases h
  | cons s ss ih => cases idx with
    | nil => cases h
    | cons i idx =>
      -- the induction hypothesis carries the summand `s * i` on both sides
      have := ih idx (b + s * i) (acc + s * i) (Nat.succ.inj h)
      rw [← Int.add_assoc, Int.add_right_comm b] at this
      exact (Int.add_left_inj _).mp this

/-- the model's closed form of cursor indexing (`View.cursorAddr`, used by `C01.paths_agree`) is what repeated
    `cursor_t::operator[]` from `home()` computes -/
theorem cursorAddr_is_home_indexing (v : View) (idx : List Int) (h : idx.length = v.lay.length) :
    v.cursorAddr idx = (v.home.indexAll idx).base := by
  have := indexAll_base v.strides idx v.base 0 (by rw [h, View.strides, Layout.strides, List.length_map])
  rw [View.cursorAddr, ← this, Int.add_zero, View.home]

/-! ### summaries (the names the checks audit) -/

theorem counter_functions_are_the_code (e e1 : Ext) (es : List Ext) (i n : Int) (rest : List Int) :
    (X_from_linear_asserts (e :: e1 :: es) n = true → X_from_linear (e :: e1 :: es) n = Exts.fromLinear (e :: e1 :: es) n) ∧
    X_to_linear (e :: e1 :: es) i rest = Exts.toLinear (e :: e1 :: es) (i :: rest) ∧
    X_next_canonical (e :: e1 :: es) i rest = Exts.nextCanonical (e :: e1 :: es) (i :: rest) ∧
    X_prev_canonical (e :: e1 :: es) i rest = Exts.prevCanonical (e :: e1 :: es) (i :: rest) ∧
    some (X1_from_linear [e] n) = Exts.fromLinear [e] n ∧ X1_to_linear [e] i = Exts.toLinear [e] (i :: rest) ∧
    X1_num_elements [e] = Exts.numElements [e] ∧
    X1_next_canonical [e] i = Exts.nextCanonical [e] (i :: rest) ∧ X1_prev_canonical [e] i = Exts.prevCanonical [e] (i :: rest) :=
  ⟨X_from_linear_tie e e1 es n, X_to_linear_tie e e1 es i rest, X_next_canonical_tie e e1 es i rest, X_prev_canonical_tie e e1 es i rest,
   X1_from_linear_tie e n, X1_to_linear_tie e i rest, X1_num_elements_tie e, X1_next_canonical_tie e i rest, X1_prev_canonical_tie e i rest⟩

theorem array_iterator_is_the_code (it o : ArrIt) (n : Int) :
    (I_inc it = it.inc ∧ I1_inc it = it.inc) ∧ (I_dec it = it.dec ∧ I1_dec it = it.dec) ∧
    (I_add it n = it.add n ∧ I1_add it n = it.add n) ∧ (I_sub it n = it.sub' n ∧ I1_sub it n = it.sub' n) ∧
    (I_diff it o = it.diff o ∧ I1_diff it o = it.diff o) ∧ I1_diff_asserts it o = it.diffAsserts o ∧
    (it.eqAsserts o = true → I_eq it o = it.eq o) ∧ I_eq_asserts it o = it.eqAsserts o ∧ I1_eq it o = it.eq o ∧
    (I_lt it o = it.lt o ∧ I1_lt it o = it.lt o) ∧ I_deref it = it.deref ∧ (it.sub = [] → I1_deref it = it.deref) ∧
    (I_at it n = it.at' n ∧ I1_at it n = it.at' n) :=
  ⟨I_inc_tie it, I_dec_tie it, I_add_tie it n, I_sub_tie it n, I_diff_tie it o, (I_diff_asserts_tie it o).1,
   (I_eq_tie it o).2.2.1, (I_eq_tie it o).2.1, (I_eq_tie it o).2.2.2, I_lt_tie it o, (I_deref_tie it).1, (I_deref_tie it).2, I_at_tie it n⟩

theorem elements_iterator_is_the_code (it o : ElemIt) (k : Int) (v : View) (r : ElemRange) :
    E_ctor r.base r.lay k = r.mkIt k ∧ ER_ctor v.base v.lay = ElemRange.ofView v ∧
    E_from_linear it k = ElemRange.fromLinearG it.xs k ∧
    E_assign it o false = ElemIt.assign it o ∧ E_inc it = it.inc ∧ E_dec it = it.dec ∧ E_add it k = it.add k ∧ E_sub it k = it.sub' k ∧
    E_diff it o = it.diff o ∧ E_lt it o = it.lt o ∧ E_eq it o = it.eq o ∧ E_deref it = it.current ∧ E_at it k = it.at' k ∧
    ER_at_aux r k = r.at' k ∧ ER_size r = r.size ∧ ER_is_empty r = r.isEmpty ∧ ER_begin_aux r = r.begin' ∧ ER_end_aux r = r.end' :=
  ⟨E_ctor_tie r.base r.lay k, ER_ctor_tie v, E_from_linear_tie it k, (E_assign_tie it o).1, E_inc_tie it, E_dec_tie it, E_add_tie it k, E_sub_tie it k,
   E_diff_tie it o, E_lt_tie it o, E_eq_tie it o, (E_deref_tie it).1, E_at_tie it k, ER_at_aux_tie r k, ER_size_tie r, ER_is_empty_tie r,
   (ER_begin_end_tie r).1, (ER_begin_end_tie r).2⟩

/-- functions of the iterator layer whose body has no assertion in the current source -/
theorem unasserted_iterator_functions (xs : List Ext) (it o : ArrIt) (e : ElemIt) (f : ElemIt) (r : ElemRange) (i n : Int) (rest : List Int) :
    X_to_linear_asserts xs i rest = true ∧ X_next_canonical_asserts xs i rest = true ∧ X_prev_canonical_asserts xs i rest = true ∧
    X1_from_linear_asserts xs n = true ∧ X1_next_canonical_asserts xs i = true ∧ X1_prev_canonical_asserts xs i = true ∧
    I_inc_asserts it = true ∧ I_dec_asserts it = true ∧ I_add_asserts it n = true ∧ I_sub_asserts it n = true ∧ I_lt_asserts it o = true ∧
    I_deref_asserts it = true ∧ I_at_asserts it n = true ∧ I1_inc_asserts it = true ∧ I1_dec_asserts it = true ∧ I1_add_asserts it n = true ∧
    I1_sub_asserts it n = true ∧ I1_lt_asserts it o = true ∧ I1_deref_asserts it = true ∧ I1_at_asserts it n = true ∧
    E_from_linear_asserts e n = true ∧ E_assign_asserts e f false = true ∧ E_inc_asserts e = true ∧ E_dec_asserts e = true ∧
    E_add_asserts e n = true ∧ E_sub_asserts e n = true ∧ E_deref_asserts e = true ∧ E_at_asserts e n = true ∧
    ER_size_asserts r = true ∧ ER_is_empty_asserts r = true ∧ ER_begin_aux_asserts r = true ∧ ER_end_aux_asserts r = true :=
  ⟨rfl, rfl, rfl, rfl, rfl, rfl, rfl, rfl, rfl, rfl, rfl, rfl, rfl, rfl, rfl, rfl, rfl, rfl, rfl, rfl, rfl, rfl, rfl, rfl, rfl, rfl, rfl, rfl, rfl, rfl, rfl, rfl⟩

end Multi.GenTieIter
