/-
  MultiProofs.Ops2 — partitioned, chunked, flatted, diagonal: the operations that change the number of dimensions.
-/
import MultiProofs.Perm

namespace Multi

theorem partitioned_refines (v : View) (n : Int) (hwf : v.lay.WF) (hd : (Op.partitioned n).InDomain v) :
    Refines v (v.partitioned n) ((Op.partitioned n).specShape v.exts) ((Op.partitioned n).specMap v.exts) := by
  obtain ⟨hne, hn, ⟨q, hq⟩⟩ := hd
  obtain ⟨d, sub, hv⟩ := List.exists_cons_of_ne_nil hne
  have hdwf : d.WF := (hv ▸ hwf).head
  have hsub : Layout.WF sub := (hv ▸ hwf).tail
  rw [View.ext_cons hv] at hq
  have hn0 : n ≠ 0 := by omega
  have hsz : d.size = n * q := hdwf.size_eq.trans hq
  have hq0 : 0 ≤ q := Int.nonneg_of_mul_nonneg_right (hsz ▸ hdwf.size_nonneg) hn
  -- the lower level keeps `q` of the `n·q` indices; the upper level strides over `q` of them
  have e1 : d.nelems.tdiv n = d.stride * q := by
    rw [hdwf.nelems_eq, hsz, Int.mul_assoc, Int.mul_tdiv_cancel_left _ hn0, Int.mul_comm]
  have e2 : d.ext.size.tdiv n = q := by rw [hq, Int.mul_tdiv_cancel_left _ hn0]
  have key : v.partitioned n = ⟨v.base, ⟨if d.stride * q ≠ 0 then d.stride * q else 1, 0, d.nelems⟩ ::
      { d with nelems := d.stride * q } :: sub⟩ := by
    simp only [View.partitioned, hv, e1]
  have hqn : 1 * q ≤ n * q := Int.mul_le_mul_of_nonneg_right (by omega) hq0
  obtain ⟨w1, w2⟩ := hdwf.resize hq0 (by omega)
  rw [View.exts_cons hv, key]
  simp only [Op.specShape, e2]
  by_cases h0 : d.nelems = 0
  · rw [if_pos (hdwf.size_eq ▸ Dim.size_of_nelems_zero h0 :), ← w2]
    exact .of_nelems_zero v _ h0 (.cons w1 hsub)
  · have hqpos : 0 < q := Int.pos_of_mul_pos_right (hsz ▸ hdwf.size_pos h0) hn
    have hsq : 0 < d.stride * q := Int.mul_pos (hdwf.stride_pos h0) hqpos
    have htop : (⟨d.stride * q, 0, d.nelems⟩ : Dim) = ⟨d.stride * q, 0 * (d.stride * q), n * (d.stride * q)⟩ := by
      rw [Int.zero_mul, hdwf.nelems_eq, hsz, Int.mul_assoc, Int.mul_comm q]
    obtain ⟨t1, t2⟩ := Dim.wf_ext_mk (f := 0) hsq (Int.le_of_lt hn)
    rw [if_pos (Int.ne_of_gt hsq), htop, if_neg (by rw [hq]; exact Int.ne_of_gt (Int.mul_pos hn hqpos))]
    refine ⟨.cons t1 (.cons w1 hsub), ?_, ?_⟩
    · show Dim.ext _ :: Dim.ext _ :: _ = _
      rw [t2, w2, norm_of_pos hn, Int.zero_add]
      rfl
    · intro idx hidx
      obtain ⟨p, _, rfl, hp1, hp2, h3⟩ := inBox_cons hidx
      obtain ⟨t, r, rfl, ht1, ht2, h3⟩ := inBox_cons h3
      obtain ⟨b1, b2⟩ := mul_add_lt hp1 hp2 (Ext.norm_mem ht1 ht2).1 (Ext.norm_mem ht1 ht2).2
      rw [addr_eq, addr_eq, hv, View.exts_cons hv]
      refine ⟨?_, ⟨?_, ?_⟩, h3⟩
      · simp only [Op.specMap, e2, Layout.off]
        rw [Int.add_mul, Int.mul_assoc, Int.mul_comm q]
        omega
      · rw [e2]; exact b1
      · rw [e2, hdwf.ext_last, hsz]; exact b2

theorem chunked_refines (v : View) (c : Int) (hwf : v.lay.WF) (hd : (Op.chunked c).InDomain v) :
    Refines v (v.chunked c) ((Op.chunked c).specShape v.exts) ((Op.chunked c).specMap v.exts) := by
  obtain ⟨hne, hc, ⟨q, hq⟩, hpos⟩ := hd
  obtain ⟨d, sub, hv⟩ := List.exists_cons_of_ne_nil hne
  rw [View.ext_cons hv] at hq hpos
  have hqpos : 0 < q := Int.pos_of_mul_pos_right (hq ▸ hpos) hc
  have e2 : d.ext.size.tdiv q = c := by rw [hq]; exact Int.mul_tdiv_cancel _ (Int.ne_of_gt hqpos)
  have e3 : d.ext.size.tdiv c = q := by rw [hq]; exact Int.mul_tdiv_cancel_left _ (Int.ne_of_gt hc)
  -- `chunked(c)` is `partitioned(size/c)`, in the code and in the documentation
  have hd : d.WF := (hv ▸ hwf).head
  have hch : v.chunked c = v.partitioned q := by
    rw [View.chunked, show v.size = d.size by simp [View.size, hv], hd.size_eq, e3]
  have hdom : (Op.partitioned q).InDomain v := ⟨hne, hqpos, View.ext_cons hv ▸ ⟨c, hq.trans (Int.mul_comm c q)⟩⟩
  rw [hch]
  refine (partitioned_refines v q hwf hdom).congr ?_ (fun idx _ => ?_)
  · rw [View.exts_cons hv]
    simp only [Op.specShape, e2, e3, if_neg (Int.ne_of_gt hpos)]
  · rw [View.exts_cons hv]
    match idx with
    | [] | [_] => rfl
    | p :: t :: r => simp only [Op.specMap, e2]

theorem flatted_refines (v : View) (hwf : v.lay.WF) (hd : Op.flatted.InDomain v) :
    Refines v v.flatted (Op.flatted.specShape v.exts) (Op.flatted.specMap v.exts) := by
  obtain ⟨hlen, hflat, hzero⟩ := hd
  obtain ⟨d0, d1, sub, hv⟩ := exists_cons_cons hlen
  have hd0 : d0.WF := (hv ▸ hwf).head
  have hd1 : d1.WF := (hv ▸ hwf).tail.head
  have hsub : Layout.WF sub := (hv ▸ hwf).tail.tail
  have hex := View.exts_cons_cons hv
  have key : v.flatted = ⟨v.base, { d1 with nelems := d1.nelems * d0.size } :: sub⟩ := by
    simp [View.flatted, hv]
  rw [View.ext_cons hv, hex, ← hd0.size_eq] at hzero
  simp only [View.isFlattable, hv, Bool.or_eq_true, decide_eq_true_eq, beq_iff_eq] at hflat
  have hmap : ∀ k r, Op.flatted.specMap (d0.ext :: d1.ext :: Layout.exts sub) (k :: r) =
      if d0.size = 1 then d0.ext.first :: k :: r else k.tdiv d1.size :: k.tmod d1.size :: r := by
    intro k r; rw [hd0.size_eq, hd1.size_eq]; rfl
  rw [key, hex]
  simp only [Op.specShape]
  rw [← hd0.size_eq, ← hd1.size_eq]
  by_cases h0 : d0.size = 0
  · -- no rows
    rw [if_pos h0]
    exact .of_nelems_zero v _ (by rw [h0]; exact Int.mul_zero _) hsub
  have hne0 : d0.nelems ≠ 0 := mt Dim.size_of_nelems_zero h0
  have hoff0 := hd0.offset_eq hne0
  rw [if_neg h0]
  by_cases h1 : d0.size = 1
  · -- one row: the sub-view at the only index
    rw [if_pos h1, h1, Int.mul_one]
    refine merge_refines (d' := d1) (fun _ => d0.ext.first) (fun t => t) hv hwf hd1 rfl
      (fun k r => by rw [hmap, if_pos h1]) (fun t ht1 ht2 => ⟨?_, ⟨Int.le_refl _, ?_⟩, ht1, ht2⟩)
    · rw [hoff0]; omega
    · rw [hd0.ext_last, h1]; omega
  · -- at least two rows, a row apart being what a row holds, and both extensions zero-based
    rw [if_neg h1]
    have h2 : 1 < d0.size := by have := hd0.size_nonneg; omega
    have hst : d0.stride = d1.nelems := hflat.resolve_left (Int.not_le.mpr h2)
    have hz : ∀ e ∈ [d0.ext, d1.ext], e.first = 0 := hzero.resolve_left (Int.not_le.mpr h2)
    have hz0 : d0.ext.first = 0 := hz _ (List.mem_cons_self)
    have hz1 : d1.ext.first = 0 := hz _ (List.mem_cons_of_mem _ List.mem_cons_self)
    have hne1 : d1.nelems ≠ 0 := hst ▸ Int.ne_of_gt (hd0.stride_pos hne0)
    have hN1 := hd1.size_pos hne1
    have hN01 : 0 < d0.size * d1.size := Int.mul_pos (Int.lt_trans Int.zero_lt_one h2) hN1
    have hoff1 := hd1.offset_eq hne1
    have hd' : ({ d1 with nelems := d1.nelems * d0.size } : Dim) =
        ⟨d1.stride, 0 * d1.stride, (d0.size * d1.size) * d1.stride⟩ := by
      rw [← hz1, ← hoff1, hd1.nelems_eq, Int.mul_comm, Int.mul_assoc]
    obtain ⟨w1, w2⟩ := Dim.wf_ext_mk (f := 0) (hd1.stride_pos hne1) (Int.le_of_lt hN01)
    rw [norm_of_pos hN01, Int.zero_add] at w2
    rw [hd']
    refine merge_refines (·.tdiv d1.size) (·.tmod d1.size) hv hwf w1 w2
      (fun k r => by rw [hmap, if_neg h1]) (fun k hk1 hk2 => ?_)
    obtain ⟨b0, b1, e⟩ := tdiv_tmod_bounds hk1 hk2 hN1
    refine ⟨?_, ?_, ?_⟩
    · have e' : (k.tdiv d1.size * d1.size + k.tmod d1.size) * d1.stride = k * d1.stride := by rw [e]
      simp only
      rw [hoff0, hoff1, hz0, hz1, hst, hd1.nelems_eq, ← Int.mul_assoc, Int.zero_mul, Int.zero_mul, Int.sub_zero,
        Int.sub_zero, Int.sub_zero, ← Int.add_mul]
      exact e'.symm
    · rw [hd0.ext_last, hz0, Int.zero_add]; exact b0
    · rw [hd1.ext_last, hz1, Int.zero_add]; exact b1

/-- the D>1 code path of `sliced_aux_`, through `range` -/
theorem range_of_sub_ne_nil (v : View) (a b : Int) {d : Dim} {l : Layout} (hv : v.lay = d :: l) (hl : l ≠ []) :
    v.range a b = ⟨v.base + (a * d.stride - d.offset), { d with nelems := d.stride * (b - a) } :: l⟩ := by
  obtain ⟨d1, l', rfl⟩ := List.exists_cons_of_ne_nil hl
  rw [View.range_eq_sliced]
  simp [View.sliced, hv]

/-- layout and base of `(*this)({0, sq}, {0, sq})` as computed by `paren_aux_` -/
theorem diag_paren (v : View) (sq : Int) {d0 d1 : Dim} {sub : Layout} (hv : v.lay = d0 :: d1 :: sub) :
    v.paren [Arg.rng 0 sq, Arg.rng 0 sq] =
      ⟨v.base + (0 * d0.stride - d0.offset) + (0 * d1.stride - d1.offset),
        { d0 with nelems := d0.stride * (sq - 0) } :: { d1 with nelems := d1.stride * (sq - 0) } :: sub⟩ := by
  simp only [View.paren]
  rw [range_of_sub_ne_nil v 0 sq hv (List.cons_ne_nil _ _)]
  simp only [View.rotated, rotate_cons]
  rw [range_of_sub_ne_nil _ 0 sq (List.cons_append ..) (List.append_ne_nil_of_right_ne_nil _ (List.cons_ne_nil _ _))]
  simp only [View.unrotated, rotate_cons]
  rw [unrotate_snoc, ← List.cons_append, unrotate_snoc]

theorem diagonal_eq (v : View) {d0 d1 : Dim} {sub : Layout} (hv : v.lay = d0 :: d1 :: sub) :
    v.diagonal = ⟨v.base, ⟨d1.stride + d0.stride, d1.offset,
      d1.stride * (min d0.size d1.size) + d0.stride * (min d0.size d1.size)⟩ :: sub⟩ := by
  unfold View.diagonal
  simp only [hv]
  rw [diag_paren v _ hv]
  simp

theorem diagonal_refines (v : View) (hwf : v.lay.WF) (hd : Op.diagonal.InDomain v) :
    Refines v v.diagonal (Op.diagonal.specShape v.exts) (Op.diagonal.specMap v.exts) := by
  obtain ⟨hlen, hzero⟩ := hd
  obtain ⟨d0, d1, sub, hv⟩ := exists_cons_cons hlen
  have hd0 : d0.WF := (hv ▸ hwf).head
  have hd1 : d1.WF := (hv ▸ hwf).tail.head
  have hex := View.exts_cons_cons hv
  rw [hex] at hzero
  have hz0 : d0.ext.first = 0 := hzero _ List.mem_cons_self
  have hz1 : d1.ext.first = 0 := hzero _ (List.mem_cons_of_mem _ List.mem_cons_self)
  rw [diagonal_eq v hv, hex]
  simp only [Op.specShape]
  rw [← hd0.size_eq, ← hd1.size_eq]
  have hsq0 : 0 ≤ min d0.size d1.size := Int.le_min.mpr ⟨hd0.size_nonneg, hd1.size_nonneg⟩
  have hle0 : min d0.size d1.size ≤ d0.size := Int.min_le_left _ _
  have hle1 : min d0.size d1.size ≤ d1.size := Int.min_le_right _ _
  generalize min d0.size d1.size = sq at hsq0 hle0 hle1 ⊢
  by_cases hq : sq = 0
  · -- either dimension empty: so is the diagonal
    subst hq
    exact .of_nelems_zero v _ (by rw [Int.mul_zero, Int.mul_zero, Int.add_zero]) (hv ▸ hwf).tail.tail
  · have hne0 : d0.nelems ≠ 0 := fun h => by rw [Dim.size_of_nelems_zero h] at hle0; omega
    have hne1 : d1.nelems ≠ 0 := fun h => by rw [Dim.size_of_nelems_zero h] at hle1; omega
    have hoff0 := hd0.offset_eq hne0
    have hoff1 := hd1.offset_eq hne1
    rw [hz0, Int.zero_mul] at hoff0
    rw [hz1, Int.zero_mul] at hoff1
    have hss : 0 < d1.stride + d0.stride := Int.add_pos (hd1.stride_pos hne1) (hd0.stride_pos hne0)
    obtain ⟨w1, w2⟩ := Dim.wf_ext_mk (f := 0) hss hsq0
    rw [Int.zero_add] at w2
    have hd' : (⟨d1.stride + d0.stride, d1.offset, d1.stride * sq + d0.stride * sq⟩ : Dim)
        = ⟨d1.stride + d0.stride, 0 * (d1.stride + d0.stride), sq * (d1.stride + d0.stride)⟩ := by
      rw [hoff1, Int.zero_mul, ← Int.add_mul, Int.mul_comm]
    rw [hd']
    refine merge_refines (fun t => t) (fun t => t) hv hwf w1 w2 (fun _ _ => rfl)
      (fun t h1 h2 => ?_)
    obtain ⟨h1, h2⟩ := Ext.norm_mem h1 h2
    simp only at h1 h2 ⊢
    rw [hoff0, hoff1, hd0.ext_last, hd1.ext_last, hz0, hz1, Int.mul_add, Int.zero_mul, Int.sub_zero, Int.sub_zero,
      Int.sub_zero, Int.zero_add, Int.zero_add]
    exact ⟨Int.add_comm _ _, ⟨h1, by omega⟩, h1, by omega⟩

end Multi
