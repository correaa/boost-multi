/-
  MultiProofs.BlasHerk — specification of the Hermitian rank-k update C := alpha·A·Aᴴ + beta·C on one triangle of the logical
  matrix, and the certificate `HerkOK` sufficient for: the xHERK call is legal and its reference post-state is the specification.
-/
import MultiModel.Blas
import MultiProofs.BlasLemmas
import MultiProofs.BlasGemm
import MultiProofs.BlasSyrk

namespace Multi.Blas
variable {R : Type} [CRing R] [DecidableEq R]

/-- C := alpha·A·Aᴴ + beta·C on one triangle (off-diagonal elements; the diagonal additionally loses its imaginary part) -/
structure HerkSpec (alpha beta : R) (side : Filling) (a c : Mat) (mem mem' : Mem R) : Prop where
  elems : ∀ i j : Int, 0 ≤ i → i < c.n0 → 0 ≤ j → j < c.n1 → inTri side i j → i ≠ j →
    c.load mem' i j = alpha * sumZ a.n1 (fun l => a.load mem i l * CRing.conj (a.load mem j l)) + beta * c.load mem i j
  diag : ∀ i : Int, 0 ≤ i → i < c.n0 →
    c.load mem' i i = CRing.re (alpha * sumZ a.n1 (fun l => a.load mem i l * CRing.conj (a.load mem i l)) + beta * CRing.re (c.load mem i i))
  frame : ∀ addr : Int, (¬ ∃ i j : Int, 0 ≤ i ∧ i < c.n0 ∧ 0 ≤ j ∧ j < c.n1 ∧ inTri side i j ∧ addr = c.addr i j) → mem' addr = mem addr

omit [CRing R] [DecidableEq R] in
def RankKCall.LegalHerk (g : RankKCall R) : Prop :=
  (g.uplo = 'U' ∨ g.uplo = 'L') ∧ (g.t = 'N' ∨ g.t = 'C') ∧ 0 ≤ g.n ∧ 0 ≤ g.k ∧
  1 ≤ g.lda ∧ (if g.t = 'N' then g.n else g.k) ≤ g.lda ∧ 1 ≤ g.ldc ∧ g.n ≤ g.ldc

omit [CRing R] [DecidableEq R] in
theorem herk_illegal_none_iff (g : RankKCall R) : g.illegal true true = none ↔ g.LegalHerk := by
  unfold RankKCall.illegal RankKCall.LegalHerk
  simp only [ite_some_eq_none, if_true, Bool.not_eq_true', Bool.not_eq_false, Bool.or_eq_true, decide_eq_true_eq, Int.not_lt, maxI_le_iff, and_true, and_assoc]

/-- THE CERTIFICATE for xHERK.  `tr` = the n×n block of the call is Cᵀ (C row-major); the call computes
    E·Eᴴ ('N') or Eᴴ·E ('C') of the UNDERLYING matrix E of A, which is A·Aᴴ read in C exactly when
    (block = C, 'N', A plain), (block = C, 'C', A conjugated), (block = Cᵀ, 'N', A conjugated), (block = Cᵀ, 'C', A plain). -/
def HerkOK (g : RankKCall R) (alpha beta : R) (side : Filling) (a c : Mat) : Prop :=
  g.illegal true true = none ∧ g.alpha = alpha ∧ g.beta = beta ∧ g.n = c.n0 ∧ c.n1 = c.n0 ∧ g.k = a.n1 ∧
  RkIsU g.t g.a g.lda c.n0 a.n1 a ∧
  ( (OutIs g.c g.ldc c.n0 c.n0 c.lmT ∧ g.uplo = side.char ∧ ((g.t = 'N' ∧ a.cj = true) ∨ (g.t = 'C' ∧ a.cj = false)))
  ∨ (OutIs g.c g.ldc c.n0 c.n0 c.lm ∧ g.uplo = side.flip.char ∧ ((g.t = 'N' ∧ a.cj = false) ∨ (g.t = 'C' ∧ a.cj = true))) )

omit [CRing R] [DecidableEq R] in
/-- a call on the underlying matrix of A that names the triangle `side` of a block that is Cᵀ (`tr`), or the other one of a block
    that is C, with the flag that makes E·Eᴴ resp. Eᴴ·E the product A·Aᴴ in that block -/
theorem HerkOK.of {alpha beta : R} {side f : Filling} {a c : Mat} {t : Char} {lda ldc : Int}
    (hsq : c.n1 = c.n0) (hA : RkOperand t a.base lda c.n0 a.n1 a) (tr : Bool)
    (hC : Operand 'N' c.base ldc c.n0 c.n0 (bif tr then c.lmT else c.lm)) (hf : f = bif tr then side else side.flip)
    (ht : (t = 'N' ∧ a.cj = tr) ∨ (t = 'C' ∧ a.cj = !tr)) :
    HerkOK ⟨f.char, t, c.n0, a.n1, alpha, a.base, lda, beta, c.base, ldc⟩ alpha beta side a c := by
  refine ⟨(herk_illegal_none_iff _).mpr ⟨f.char_legal, ht.imp And.left And.left, hA.n, hA.k, hA.one_le, hA.le, hC.one_le, hC.le_N⟩,
    rfl, rfl, rfl, hsq, rfl, hA.is, ?_⟩
  cases tr
  · exact .inr ⟨hC.is.outIs, congrArg Filling.char hf, ht⟩
  · exact .inl ⟨hC.is.outIs, congrArg Filling.char hf, ht⟩

/-- the sum an xHERK call forms for the cell (i, j) of its block -/
def herkSum (g : RankKCall R) (mem : Mem R) (i j : Int) : R :=
  if g.t = 'N'
  then sumZ g.k (fun l => rkElem 'N' g.a g.lda mem i l * CRing.conj (rkElem 'N' g.a g.lda mem j l))
  else sumZ g.k (fun l => CRing.conj (rkElem 'C' g.a g.lda mem i l) * rkElem 'C' g.a g.lda mem j l)

/-- the value an xHERK call gives the cell (i, j) of its block that held x -/
def herkCell (g : RankKCall R) (mem : Mem R) (i j : Int) (x : R) : R :=
  if i = j then CRing.re (g.alpha * herkSum g mem i j + g.beta * CRing.re x) else g.alpha * herkSum g mem i j + g.beta * x

omit [DecidableEq R] in
/-- at the quick return nothing changes: a self-conjugate diagonal element is its own real part -/
theorem herkCell_quick {g : RankKCall R} (hq : (g.alpha = 0 ∨ g.k = 0) ∧ g.beta = 1) (mem : Mem R) (i j : Int) {x : R}
    (hx : i = j → CRing.conj x = x) : herkCell g mem i j x = x := by
  have hz : ∀ y : R, g.alpha * herkSum g mem i j + g.beta * y = y := fun y => by
    unfold herkSum
    split <;> exact rk_quick hq _ y
  unfold herkCell
  split
  · rw [hz, CRing.re_self x (hx ‹_›), CRing.re_self x (hx ‹_›)]
  · exact hz x

/-- E·Eᴴ ('N') or Eᴴ·E (otherwise) of the n×k matrix E stored as the underlying matrix of `a`, cell (i, j) -/
def herkSumU (t : Char) (k : Int) (a : Mat) (mem : Mem R) (i j : Int) : R :=
  if t = 'N' then sumZ k (fun l => mem (a.addr i l) * CRing.conj (mem (a.addr j l)))
  else sumZ k (fun l => CRing.conj (mem (a.addr i l)) * mem (a.addr j l))

omit [DecidableEq R] in
theorem herkSumU_comm (k : Int) (a : Mat) (mem : Mem R) (i j : Int) : herkSumU 'N' k a mem i j = herkSumU 'C' k a mem j i := by
  unfold herkSumU
  rw [if_pos rfl, if_neg (by decide)]
  exact sumZ_congr fun l _ _ => CRing.mul_comm _ _

omit [DecidableEq R] in
/-- A·Aᴴ of a plain matrix is E·Eᴴ of its underlying matrix -/
theorem herkSumU_plain {a : Mat} (h : a.cj = false) (mem : Mem R) (i j : Int) :
    herkSumU 'N' a.n1 a mem i j = sumZ a.n1 (fun l => a.load mem i l * CRing.conj (a.load mem j l)) := by
  unfold herkSumU Mat.load
  rw [if_pos rfl, h]
  rfl

omit [DecidableEq R] in
/-- A·Aᴴ of a conjugated matrix is Eᴴ·E of its underlying matrix -/
theorem herkSumU_conj {a : Mat} (h : a.cj = true) (mem : Mem R) (i j : Int) :
    herkSumU 'C' a.n1 a mem i j = sumZ a.n1 (fun l => a.load mem i l * CRing.conj (a.load mem j l)) := by
  unfold herkSumU Mat.load
  rw [if_neg (by decide), h]
  exact sumZ_congr fun l _ _ => congrArg _ (CRing.conj_conj _).symm

omit [DecidableEq R] in
theorem herkSum_eq {g : RankKCall R} (ht : g.t = 'N' ∨ g.t = 'C') {a : Mat} (hA : RkIsU g.t g.a g.lda g.n g.k a) (mem : Mem R)
    {i j : Int} (hi0 : 0 ≤ i) (hi : i < g.n) (hj0 : 0 ≤ j) (hj : j < g.n) : herkSum g mem i j = herkSumU g.t g.k a mem i j := by
  unfold herkSum herkSumU
  have hN : 'C' ≠ 'N' := by decide
  rcases ht with ht | ht <;> rw [ht] at hA ⊢
  · rw [if_pos rfl, if_pos rfl]
    apply sumZ_congr
    intro l hl0 hl
    rw [rkIsU_elem hA mem hi0 hi hl0 hl, rkIsU_elem hA mem hj0 hj hl0 hl]
    rfl
  · rw [if_neg hN, if_neg hN]
    apply sumZ_congr
    intro l hl0 hl
    rw [rkIsU_elem hA mem hi0 hi hl0 hl, rkIsU_elem hA mem hj0 hj hl0 hl]
    rfl

/-- soundness of the certificate, for a memory in which the diagonal of C is self-conjugate (a Hermitian C) -/
theorem herkOK_sound {g : RankKCall R} {alpha beta : R} {side : Filling} {a c : Mat} (hcc : c.cj = false)
    (h : HerkOK g alpha beta side a c) (mem : Mem R)
    (hdiag : ∀ i : Int, 0 ≤ i → i < c.n0 → CRing.conj (c.load mem i i) = c.load mem i i) :
    HerkSpec alpha beta side a c mem (g.execHerk mem) := by
  obtain ⟨hleg, rfl, rfl, hn, hsq, hk, hA, hor⟩ := h
  obtain ⟨_, ht, _, _, _, _, _, hld⟩ := (herk_illegal_none_iff g).mp hleg
  rw [← hn, ← hk] at hA
  have hd : ∀ i j : Int, 0 ≤ i → i < c.n0 → i = j → CRing.conj (mem (c.addr i j)) = mem (c.addr i j) := by
    intro i j hi0 hi e
    subst e
    have := hdiag i hi0 hi
    rwa [Mat.load_plain hcc] at this
  rcases hor with ⟨hC, hup, hcase⟩ | ⟨hC, hup, hcase⟩
  · -- the block is Cᵀ: C(i,j) is its cell (j,i)
    have hs : ∀ i j : Int, 0 ≤ i → i < c.n0 → 0 ≤ j → j < c.n0 →
        herkSum g mem j i = sumZ a.n1 (fun l => a.load mem i l * CRing.conj (a.load mem j l)) := by
      intro i j hi0 hi hj0 hj
      rw [herkSum_eq ht hA mem hj0 (hn ▸ hj) hi0 (hn ▸ hi)]
      rcases hcase with ⟨ht, hcj⟩ | ⟨ht, hcj⟩ <;> rw [ht, hk]
      · exact (herkSumU_comm _ a mem j i).trans (herkSumU_conj hcj mem i j)
      · exact (herkSumU_comm _ a mem i j).symm.trans (herkSumU_plain hcj mem i j)
    obtain ⟨he, hf⟩ := rkUpdate_spec (F := herkCell g mem) hleg hld hcc hn hsq true hC hup mem
      fun hq i j hi0 hi _ _ => herkCell_quick hq mem j i fun e => hd i j hi0 hi e.symm
    refine ⟨fun i j hi0 hi hj0 hj htri hne => (he i j hi0 hi hj0 hj htri).trans ?_,
      fun i hi0 hi => (he i i hi0 hi hi0 (hsq ▸ hi) (inTri_self side i)).trans ?_, hf⟩
    · exact (if_neg (Ne.symm hne)).trans (by rw [hs i j hi0 hi hj0 (hsq ▸ hj)])
    · exact (if_pos rfl).trans (by rw [hs i i hi0 hi hi0 hi])
  · -- the block is C
    have hs : ∀ i j : Int, 0 ≤ i → i < c.n0 → 0 ≤ j → j < c.n0 →
        herkSum g mem i j = sumZ a.n1 (fun l => a.load mem i l * CRing.conj (a.load mem j l)) := by
      intro i j hi0 hi hj0 hj
      rw [herkSum_eq ht hA mem hi0 (hn ▸ hi) hj0 (hn ▸ hj)]
      rcases hcase with ⟨ht, hcj⟩ | ⟨ht, hcj⟩ <;> rw [ht, hk]
      · exact herkSumU_plain hcj mem i j
      · exact herkSumU_conj hcj mem i j
    obtain ⟨he, hf⟩ := rkUpdate_spec (F := herkCell g mem) hleg hld hcc hn hsq false hC hup mem
      fun hq i j hi0 hi _ _ => herkCell_quick hq mem i j (hd i j hi0 hi)
    refine ⟨fun i j hi0 hi hj0 hj htri hne => (he i j hi0 hi hj0 hj htri).trans ?_,
      fun i hi0 hi => (he i i hi0 hi hi0 (hsq ▸ hi) (inTri_self side i)).trans ?_, hf⟩
    · exact (if_neg hne).trans (by rw [hs i j hi0 hi hj0 (hsq ▸ hj)])
    · exact (if_pos rfl).trans (by rw [hs i i hi0 hi hi0 hi])

end Multi.Blas
