/-
  MultiProofs.SerWalk — the canonical element order as an offset list computed from strides and sizes only
  (`Layout.canonOffs`).  The specification's enumeration (index tuples of the box through the address function,
  `boxIndices_off`), the walk of `elements()` iterators stepping with `next_canonical` (`elements_walk`, from `elemit_kth`)
  and the walk of a one-dimensional `begin()/end()` (`ArrIt.walk_eq`) all yield it; so does the recursive hvector typemap of
  the MPI skeleton (MultiProofs/MpiLemmas.lean).
-/
import MultiModel.Serial
import MultiProofs.SerArchive
import MultiProofs.ElemOrder

namespace Multi

/-- offsets from the base of the elements of a view in canonical order (last index fastest): depends only on the
    sizes and strides -/
def Layout.canonOffs : Layout → List Int
  | [] => [0]
  | d :: l => (List.range d.size.toNat).flatMap fun (k : Nat) => (canonOffs l).map fun r => Int.ofNat k * d.stride + r

theorem boxIndices_off (l : Layout) (hwf : l.WF) : (boxIndices l.exts).map l.off = l.canonOffs := by
  induction l with
  | nil => rfl
  | cons d l ih =>
    simp only [Layout.exts, List.map_cons, boxIndices, Layout.canonOffs, List.map_flatMap, List.map_map,
      ← hwf.head.size_eq, ← ih hwf.tail]
    by_cases h0 : d.nelems = 0
    · rw [Dim.size_of_nelems_zero h0]; rfl
    · congr 1; funext k
      refine List.map_congr_left fun r _ => ?_
      simp only [Function.comp, Layout.off, hwf.head.offset_eq h0, Int.add_mul]
      omega

def canonAddrs (v : View) : List Int := (boxIndices v.exts).map v.addr

theorem canonAddrs_length (v : View) : (canonAddrs v).length = (boxIndices v.exts).length := List.length_map _

theorem map_canonAddrs {α : Type} (v : View) (g : Int → α) :
    (canonAddrs v).map g = (boxIndices v.exts).map fun idx => g (v.addr idx) := List.map_map

theorem canonAddrs_eq (v : View) (hwf : v.lay.WF) : canonAddrs v = v.lay.canonOffs.map (v.base + ·) := by
  rw [canonAddrs, ← boxIndices_off v.lay hwf, List.map_map]
  apply List.map_congr_left
  intro idx _
  simp [addr_eq]

/-- a level of the zero-based copy of the layout that `elements_range_t` stores -/
def Dim.zeroOff (d : Dim) : Dim := { d with offset := 0 }

theorem Dim.zeroOff_eq_zeroed (d : Dim) : d.zeroOff = d.zeroed := rfl

theorem ofView_zeroOff (v : View) : ElemRange.ofView v = ⟨v.base, v.lay.map Dim.zeroOff⟩ := ofView_eq v

theorem zeroOff_wf {l : Layout} (h : l.WF) : Layout.WF (l.map Dim.zeroOff) := by
  intro d hd
  obtain ⟨d0, hd0, rfl⟩ := List.mem_map.mp hd
  rcases h d0 hd0 with h0 | ⟨a, b, c, _⟩
  · exact Or.inl h0
  · exact Or.inr ⟨a, b, c, ⟨0, by simp [Dim.zeroOff]⟩⟩

theorem canonOffs_zeroOff (l : Layout) : Layout.canonOffs (l.map Dim.zeroOff) = l.canonOffs := by
  induction l with
  | nil => rfl
  | cons d l ih => simp only [List.map_cons, Layout.canonOffs, ih]; rfl

/-- `layout_t::operator()` on a zero-based layout is the displacement function -/
theorem apply_zeroOff (l : Layout) (ns : List Int) : Layout.apply (l.map Dim.zeroOff) ns = Layout.off (l.map Dim.zeroOff) ns := by
  induction l generalizing ns with
  | nil => cases ns <;> simp [Layout.apply, Layout.off]
  | cons d l ih =>
    cases ns with
    | nil => simp [Layout.apply, Layout.off]
    | cons i is => simp only [List.map_cons, Layout.apply, Layout.off, ih, Dim.zeroOff]; omega

theorem ElemIt.inc_n {it it' : ElemIt} (h : it.inc = some it') : it'.n = it.n + 1 := by
  unfold ElemIt.inc at h
  split at h
  split at h
  · obtain ⟨ns, _, rfl⟩ := Option.map_eq_some_iff.mp h; rfl
  · cases h; rfl

/-- `for_each` up to an end iterator `n` positions further performs `n` increments -/
theorem ElemIt.walk_eq_addrs : ∀ (n : Nat) (it e : ElemIt), e.n = it.n + n → it.walk e n = ElemIt.addrs n it
  | 0, _, _, _ => rfl
  | n + 1, it, e, h => by
    have hne : it.eq e = false := by simp only [ElemIt.eq, beq_eq_false_iff_ne]; omega
    rw [ElemIt.walk, ElemIt.addrs, hne]
    cases hi : it.inc with
    | none => rfl
    | some it' =>
      have := walk_eq_addrs n it' e (by rw [ElemIt.inc_n hi]; omega)
      simp only [Bool.false_eq_true, if_false, bind, Option.bind, this]

/-- **`elements()` visits the elements in canonical order.**  For a well-formed view, the iterator walk of
    `for_each(elements().begin(), elements().end(), …)` yields the canonical address list. -/
theorem elements_walk (v : View) (hwf : v.lay.WF) :
    (do let r := ElemRange.ofView v
        let b ← r.begin'
        let e ← r.end'
        b.walk e (e.diff b).toNat) = some (canonAddrs v) := by
  obtain ⟨b, e, hb, he, hd, _, ha⟩ := elemit_kth v hwf
  have hlen := boxIndices_length v hwf
  have hfuel : (e.diff b).toNat = (boxIndices v.exts).length := by omega
  simp only [hb, he, bind, Option.bind, hfuel]
  rw [ElemIt.walk_eq_addrs _ _ _ (by simp only [ElemIt.diff] at hd; omega), ha, canonAddrs]

/-- `for_each(begin(), end(), …)` on a one-dimensional view whose end is `n` strides further visits `n` addresses -/
theorem ArrIt.walk_eq (stride : Int) (hs : 0 < stride) (sub : Layout) : ∀ (n : Nat) (p : Int),
    ArrIt.walk ⟨p, stride, sub⟩ ⟨p + n * stride, stride, sub⟩ n = (List.range n).map fun (k : Nat) => p + k * stride
  | 0, _ => rfl
  | n + 1, p => by
    have hpos : 0 < ((n + 1 : Nat) : Int) * stride := Int.mul_pos (by omega) hs
    have hne : (p == p + ((n + 1 : Nat) : Int) * stride) = false := by rw [beq_eq_false_iff_ne]; omega
    have hend : p + ((n + 1 : Nat) : Int) * stride = p + stride + n * stride := by
      rw [Int.natCast_succ, Int.add_mul]; omega
    rw [ArrIt.walk]
    simp only [ArrIt.eq, hne, Bool.false_eq_true, if_false, ArrIt.inc]
    rw [hend, walk_eq stride hs sub n (p + stride), List.range_succ_eq_map, List.map_cons, List.map_map]
    congr 1
    · simp
    · apply List.map_congr_left
      intro k _
      simp only [Function.comp, Int.natCast_succ, Int.add_mul]
      omega

theorem canonOffs_one (d : Dim) : Layout.canonOffs [d] = (List.range d.size.toNat).map fun (k : Nat) => k * d.stride := by
  simp [Layout.canonOffs, List.map_eq_flatMap]

/-- both `serialize` overloads of a view visit its elements in canonical order -/
theorem serialAddrs_canonical (v : View) (hwf : v.lay.WF) (k : ViewKind) : v.serialAddrs k = some (canonAddrs v) := by
  have hgen := elements_walk v hwf
  unfold View.serialAddrs
  cases hl : v.lay with
  | nil => simp [canonAddrs_eq v hwf, hl, Layout.canonOffs]
  | cons d sub =>
    cases sub with
    | nil =>
      cases k with
      | elements => exact hgen
      | beginEnd =>
        have hdiff : (v.base + d.nelems - v.base).tdiv d.stride = d.size := by
          have : v.base + d.nelems - v.base = d.nelems := by omega
          rw [this, Dim.size]
          split
          · next h0 => rw [h0]; exact Int.zero_tdiv _
          · rfl
        simp only [View.begin', View.end', hl, ArrIt.diff, hdiff, canonAddrs_eq v hwf, canonOffs_one, List.map_map]
        rw [hl] at hwf
        by_cases h0 : d.nelems = 0
        · simp [Dim.size_of_nelems_zero h0, ArrIt.walk]
        · rw [hwf.head.nelems_eq, ← Int.toNat_of_nonneg hwf.head.size_nonneg, Int.toNat_natCast,
            ArrIt.walk_eq _ (hwf.head.stride_pos h0)]
          rfl
    | cons d1 rest => exact hgen

end Multi
