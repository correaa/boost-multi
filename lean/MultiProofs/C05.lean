/-
  C05 — Assignment through views is deep and writes exactly the viewed elements.

  Shape of every statement: under the property's quantifier (well-formed views of equal extents, destination
  injective, destination and source element-disjoint) the transcribed loop returns a memory `m'` (no assertion
  fires) with  m'(dst[idx]) = m(src[idx])  at every index tuple and  m' = m  at every address that is not an
  element of the destination.  The model functions return only a memory: the view descriptors (base, layout)
  are not touched by construction — assignment never rebinds, resizes or reallocates.
-/
import MultiProofs.StoreLemmas
import MultiProofs.Inj
import MultiProofs.SeqLemmas
import MultiProofs.RowsLemmas

namespace Multi
namespace C05

variable {α : Type}

/-- the three spellings of assignment between views of equal extensions — `dst = src` (same element and pointer type),
    the converting overload, `dst.elements() = src.elements()` — produce the same memory -/
theorem assign_all_exact (dst src : View) (m : Mem α) (hd : dst.lay.WF) (hs : src.lay.WF) (hne : dst.lay ≠ [])
    (hext : dst.exts = src.exts) (hinj : dst.Injective) (hdis : dst.Disjoint src) :
    ∃ m', dst.assign src m = some m' ∧ dst.assignT src m = some m' ∧ dst.assignElements src m = some m' ∧
      (∀ idx, InBox dst.exts idx → m' (dst.addr idx) = m (src.addr idx)) ∧
      (∀ a, ¬ dst.InImage a → m' a = m a) := by
  obtain ⟨c1, c2⟩ := copyList_spec (boxIndices dst.exts) dst.addr src.addr m (boxIndices_nodup _) hinj.on_box
    (hdis.on_box hext)
  obtain ⟨t1, t2⟩ := View.assignT_eq_assign dst src m hext
  have e := View.assign_eq dst src m hd hs hne hext
  exact ⟨_, e, t1.trans e, t2.trans e, fun idx h => c1 idx ((mem_boxIndices _ _).mpr h),
    fun a ha => c2 a (mt (View.mem_addrs_iff dst a).mp ha)⟩

/-- `dst = src` (same element and pointer type) -/
theorem assign_exact (dst src : View) (m : Mem α) (hd : dst.lay.WF) (hs : src.lay.WF) (hne : dst.lay ≠ [])
    (hext : dst.exts = src.exts) (hinj : dst.Injective) (hdis : dst.Disjoint src) :
    ∃ m', dst.assign src m = some m' ∧
      (∀ idx, InBox dst.exts idx → m' (dst.addr idx) = m (src.addr idx)) ∧
      (∀ a, ¬ dst.InImage a → m' a = m a) :=
  let ⟨m', h, _, _, c⟩ := assign_all_exact dst src m hd hs hne hext hinj hdis
  ⟨m', h, c⟩

/-- `dst = src` through the converting overload (other element / pointer type) and `dst.elements() = src.elements()` -/
theorem assignT_exact (dst src : View) (m : Mem α) (hd : dst.lay.WF) (hs : src.lay.WF) (hne : dst.lay ≠ [])
    (hext : dst.exts = src.exts) (hinj : dst.Injective) (hdis : dst.Disjoint src) :
    ∃ m', dst.assignT src m = some m' ∧ dst.assignElements src m = some m' ∧
      (∀ idx, InBox dst.exts idx → m' (dst.addr idx) = m (src.addr idx)) ∧
      (∀ a, ¬ dst.InImage a → m' a = m a) :=
  let ⟨m', _, h⟩ := assign_all_exact dst src m hd hs hne hext hinj hdis
  ⟨m', h⟩

/-- assigning a view to a view with the same descriptor (or to itself) changes nothing -/
theorem assign_self (v : View) (m : Mem α) (hv : v.lay.WF) (hne : v.lay ≠ []) :
    ∃ m', v.assign v m = some m' ∧ ∀ a, m' a = m a :=
  ⟨_, View.assign_eq v v m hv hv hne rfl, fun _ => by rw [copyList_self _ _ (zip_self_eq _)]⟩

/-- `dst = src.element_moved()`: every destination element receives the corresponding source element, every source
    element (and nothing else) is left in the moved-from state -/
theorem move_exact (moved : α) (dst src : View) (m : Mem α) (hd : dst.lay.WF) (hs : src.lay.WF) (hne : dst.lay ≠ [])
    (hext : dst.exts = src.exts) (hinj : dst.Injective) (hsinj : src.Injective) (hdis : dst.Disjoint src) :
    ∃ m', dst.assignMoved moved src m = some m' ∧
      (∀ idx, InBox dst.exts idx → m' (dst.addr idx) = m (src.addr idx)) ∧
      (∀ idx, InBox src.exts idx → m' (src.addr idx) = moved) ∧
      (∀ a, ¬ dst.InImage a → ¬ src.InImage a → m' a = m a) := by
  obtain ⟨c1, c2⟩ := transferList_spec (fun _ => moved) (boxIndices dst.exts) dst.addr src.addr m (boxIndices_nodup _)
    hinj.on_box (hext ▸ hsinj.on_box) (hdis.on_box hext)
  exact ⟨_, View.assignMoved_eq moved dst src m hd hs hne hext,
    fun idx h => (c1 idx ((mem_boxIndices _ _).mpr h)).1, fun idx h => (c1 idx ((mem_boxIndices _ _).mpr (hext ▸ h))).2,
    fun a ha hb => c2 a (mt (View.mem_addrs_iff dst a).mp ha) (mt (fun hc => (View.mem_addrs_iff src a).mp (hext ▸ hc)) hb)⟩

/-- `swap(a, b)` exchanges corresponding elements and touches nothing else -/
theorem swap_exact (a b : View) (m : Mem α) (ha : a.lay.WF) (hb : b.lay.WF) (hne : a.lay ≠ [])
    (hext : a.exts = b.exts) (hainj : a.Injective) (hbinj : b.Injective) (hdis : a.Disjoint b) :
    ∃ m', a.swap b m = some m' ∧
      (∀ idx, InBox a.exts idx → m' (a.addr idx) = m (b.addr idx) ∧ m' (b.addr idx) = m (a.addr idx)) ∧
      (∀ x, ¬ a.InImage x → ¬ b.InImage x → m' x = m x) := by
  obtain ⟨c1, c2⟩ := swapList_spec (boxIndices a.exts) a.addr b.addr m (boxIndices_nodup _)
    hainj.on_box (hext ▸ hbinj.on_box) (hdis.on_box hext)
  exact ⟨_, View.swap_eq a b m ha hb hne hext, fun idx h => c1 idx ((mem_boxIndices _ _).mpr h),
    fun x hx hy => c2 x (mt (View.mem_addrs_iff a x).mp hx) (mt (fun hc => (View.mem_addrs_iff b x).mp (hext ▸ hc)) hy)⟩

/-- `v.fill(x)` (D = 1) -/
theorem fill_exact (v : View) (x : α) (m : Mem α) (hv : v.lay.WF) (h1 : v.lay.length = 1) :
    ∃ m', v.fill x m = some m' ∧
      (∀ idx, InBox v.exts idx → m' (v.addr idx) = x) ∧
      (∀ a, ¬ v.InImage a → m' a = m a) := by
  obtain ⟨d, hd⟩ := List.length_eq_one_iff.mp h1
  have he : v.fill x m = some (writeList (((boxIndices v.exts).map v.addr).map (fun a => (a, x))) m) := by
    simp only [View.fill, hd, ArrIt.fillN_eq, View.arr_addrs_one v d hd (hv d (hd ▸ List.mem_singleton_self d))]
  refine ⟨_, he, fun idx hidx => ?_, fun a ha => ?_⟩
  · rw [writeList_fill, if_pos ((View.mem_addrs_iff v _).mpr ⟨idx, hidx, rfl⟩)]
  · rw [writeList_fill, if_neg (mt (View.mem_addrs_iff v a).mp ha)]

/-- D = 1: `v = {x0, x1, …}`, `v = range`, `v.assign(first)`: the k-th element of the view receives the k-th value -/
theorem assignVals1_exact (v : View) (vals : List α) (m : Mem α) (hv : v.lay.WF) (h1 : v.lay.length = 1)
    (hlen : (vals.length : Int) = v.size) (hinj : v.Injective) :
    ∃ m', v.assignVals1 vals m = some m' ∧
      (∀ (k : Nat) (hk : k < vals.length), m' (v.addr [v.ext.first + Int.ofNat k]) = vals[k]) ∧
      (∀ a, ¬ v.InImage a → m' a = m a) := by
  obtain ⟨d, hd⟩ := List.length_eq_one_iff.mp h1
  have haddrs : ArrIt.addrs vals.length v.begin' = (boxIndices v.exts).map v.addr := by
    rw [← Int.toNat_natCast vals.length, hlen]
    exact View.arr_addrs_one v d hd (hv d (hd ▸ List.mem_singleton_self d))
  have hlen' : ((boxIndices v.exts).map v.addr).length = vals.length := by
    rw [← haddrs, ArrIt.addrs_eq]; simp
  refine ⟨ArrIt.storeN vals v.begin' m, by simp only [View.assignVals1, hd, hlen, if_true], fun k hk => ?_, fun a ha => ?_⟩
  · rw [ArrIt.storeN_eq, haddrs,
      ← writeList_zip_getElem _ vals m (nodup_map_of_inj_on _ _ (boxIndices_nodup _) hinj.on_box) hlen' k hk]
    congr 1
    simp only [View.exts, Layout.exts, hd, List.map_cons, List.map_nil, boxIndices_one, List.map_map,
      List.getElem_map, List.getElem_range, Function.comp, View.ext]
  · rw [ArrIt.storeN_eq, haddrs]
    exact writeList_zip_not_mem _ _ _ _ (mt (View.mem_addrs_iff v a).mp ha)

/-- `array_ref = array_ref` (flat copy over `data_elements()`), for two whole arrays with equal extensions whose
    storage ranges do not overlap -/
theorem aref_assign_exact (bd bs : Int) (es : List Ext) (m : Mem α) (hes : ∀ e ∈ es, e.first ≤ e.last)
    (hdis : bd + nElems es ≤ bs ∨ bs + nElems es ≤ bd) :
    let dst : View := ⟨bd, Layout.ofExts es⟩
    let src : View := ⟨bs, Layout.ofExts es⟩
    ∃ m', dst.arefAssign src m = some m' ∧ dst.arefAssignT src m = some m' ∧
      (∀ idx, InBox dst.exts idx → m' (dst.addr idx) = m (src.addr idx)) ∧
      (∀ a, ¬ dst.InImage a → m' a = m a) := by
  intro dst src
  have rnum : (Layout.ofExts es).numElements = nElems es := ofExts_numElements hes
  have hN : ((nElems es).toNat : Int) = nElems es := Int.toNat_of_nonneg (nElems_nonneg hes)
  obtain ⟨c1, c2⟩ := copyFlat_spec (nElems es).toNat bs bd m (hN.symm ▸ hdis)
  rw [hN] at c1 c2
  refine ⟨copyFlat (nElems es).toNat bs bd m, ?_, ?_, ?_, ?_⟩
  · simp [View.arefAssign, dst, src, View.numElements, rnum]
  · simp [View.arefAssignT, dst, src, View.numElements, View.exts, rnum, Exts.eqv_refl]
  · exact (root_forall bd bs es hes fun x y => copyFlat _ bs bd m x = m y).2 c1
  · exact fun a ha => c2 a ((root_forall bd bd es hes fun x _ => a ≠ x).1 fun idx hidx e => ha ⟨idx, hidx, e.symm⟩)

/-- a view reachable from an array by the view-forming operations of C01 is well-formed and injective (C01:
    `reachable_denotes`, `reachable_injective`), so for such a destination the two hypotheses of the theorems above
    are discharged -/
theorem reachable_wf_injective (bd : Int) (ed : List Ext) (hed : ∀ e ∈ ed, e.first ≤ e.last)
    (dst : View) (den : Den) (hr : Reach ⟨bd, Layout.ofExts ed⟩ dst den) : dst.lay.WF ∧ dst.Injective := by
  have rwf := (C01.root_denotes ed hed).1
  have r := C01.reachable_denotes ⟨bd, Layout.ofExts ed⟩ dst den rwf hr
  refine ⟨r.1, ?_⟩
  intro i j hi hj h
  have hshape : dst.exts = den.shape := r.2.1
  exact reachable_injective bd ed hed dst den hr i j (hshape ▸ hi) (hshape ▸ hj) h

/-- **C05 for the property's quantifier**: destination and source reachable (as in C01) from two arrays, equal extents,
    no element in common ⇒ after `dst = src` every destination element holds the corresponding source value and
    every other cell of the storage is untouched -/
theorem assign_exact_reachable (bd bs : Int) (ed es : List Ext) (hed : ∀ e ∈ ed, e.first ≤ e.last) (hes : ∀ e ∈ es, e.first ≤ e.last)
    (dst src : View) (dd ds : Den) (hrd : Reach ⟨bd, Layout.ofExts ed⟩ dst dd) (hrs : Reach ⟨bs, Layout.ofExts es⟩ src ds)
    (m : Mem α) (hne : dst.lay ≠ []) (hext : dst.exts = src.exts) (hdis : dst.Disjoint src) :
    ∃ m', dst.assign src m = some m' ∧
      (∀ idx, InBox dst.exts idx → m' (dst.addr idx) = m (src.addr idx)) ∧
      (∀ a, ¬ dst.InImage a → m' a = m a) := by
  obtain ⟨hd, hinj⟩ := reachable_wf_injective bd ed hed dst dd hrd
  obtain ⟨hs, _⟩ := reachable_wf_injective bs es hes src ds hrs
  exact assign_exact dst src m hd hs hne hext hinj hdis

/-- D ≥ 2: `v = {row₀, row₁, …}` (initializer list of `array<T, D-1>`): element `(first+k, rest)` of the view receives row k's element at `rest`; nothing else changes -/
theorem assign_rows_exact (v : View) (rows : List (List α)) (m : Mem α) (hv : v.lay.WF) (h2 : 2 ≤ v.lay.length)
    (hinj : v.Injective) (hlen : (rows.length : Int) = v.size)
    (hrow : ∀ r ∈ rows, r.length = (boxIndices v.exts.tail).length) :
    ∃ m', v.assignRows rows m = some m' ∧ rowsVal v m' = rows ∧
      (∀ (k : Nat) (hk : k < rows.length) (j : Nat) (hj : j < (boxIndices v.exts.tail).length),
        m' (v.addr ((v.ext.first + Int.ofNat k) :: (boxIndices v.exts.tail)[j])) =
          (rows[k])[j]'(by rw [hrow _ (List.getElem_mem hk)]; exact hj)) ∧
      (∀ a, ¬ v.InImage a → m' a = m a) := by
  obtain ⟨d, d1, sub, hl⟩ := exists_cons_cons h2
  have hne : v.lay ≠ [] := by rw [hl]; simp
  obtain ⟨m', e1, e2, e3, e4⟩ := stepLoop_all v hv hne hinj (fun r x m => (ElemRange.ofView r).assignVals x m)
    (by
      intro k r m _ _ _
      have : (v.rowAt k).lay = d1 :: sub := by simp [View.rowAt, View.begin', hl, ArrIt.add, ArrIt.deref]
      simp only [View.writeRow, this])
    rows m hlen hrow
  refine ⟨m', ?_, e2, fun k hk j hj => e3 k hk j hj _, e4⟩
  simp only [View.assignRows, hl, hlen, if_true]
  rw [rowsLoop_eq_stepLoop]; exact e1

/-- D = 2 from a range of ranges (`std::vector<std::vector<T>>`) -/
theorem assign_range_rows_exact (v : View) (rows : List (List α)) (m : Mem α) (hv : v.lay.WF) (h2 : v.lay.length = 2)
    (hinj : v.Injective) (hlen : (rows.length : Int) = v.size)
    (hrow : ∀ r ∈ rows, r.length = (boxIndices v.exts.tail).length) :
    ∃ m', v.assignRangeRows rows m = some m' ∧ rowsVal v m' = rows ∧
      (∀ (k : Nat) (hk : k < rows.length) (j : Nat) (hj : j < (boxIndices v.exts.tail).length),
        m' (v.addr ((v.ext.first + Int.ofNat k) :: (boxIndices v.exts.tail)[j])) =
          (rows[k])[j]'(by rw [hrow _ (List.getElem_mem hk)]; exact hj)) ∧
      (∀ a, ¬ v.InImage a → m' a = m a) := by
  obtain ⟨d, d1, sub, hl⟩ := exists_cons_cons (Nat.le_of_eq h2.symm)
  obtain rfl : sub = [] := List.eq_nil_of_length_eq_zero (by simpa [hl] using h2)
  have hne : v.lay ≠ [] := by rw [hl]; simp
  have hd1 : d1.WF := hv d1 (by rw [hl]; simp)
  obtain ⟨m', e1, e2, e3, e4⟩ := stepLoop_all v hv hne hinj (fun r x m => r.assignVals1 x m)
    (by
      intro k r m h0 h1 hr
      have hlay : (v.rowAt k).lay = [d1] := by simp [View.rowAt, View.begin', hl, ArrIt.add, ArrIt.deref]
      obtain ⟨_, _, hcells⟩ := rowAt_props hv hne h0 h1
      exact assignVals1_eq_writeRow (v.rowAt k) d1 hlay hd1 r m (by rw [hcells, hr]; simp [rowCells]))
    rows m hlen hrow
  refine ⟨m', ?_, e2, fun k hk j hj => e3 k hk j hj _, e4⟩
  simp only [View.assignRangeRows, hl, hlen, if_true]
  rw [rangeRowsLoop_eq_stepLoop]; exact e1

/-- 0-D assignment writes the one element -/
theorem assign0_exact (dst : View) (x : α) (m : Mem α) :
    (dst.assign0 x m) dst.base = x ∧ ∀ a, a ≠ dst.base → (dst.assign0 x m) a = m a :=
  ⟨Mem.write_same _ _ _, fun _ ha => Mem.write_other _ _ ha⟩

/-- the hypotheses of `assign_exact` / `move_exact` / `swap_exact` are satisfiable: `dst` = the 2×3 block `A({0,2},{0,3})`
    of a 4×5 array at base 0, `src` = the transposed 3×2 block `B({0,3},{0,2}).transposed()` of a 4×5 array at base 100 -/
example : ∃ dst src : View, dst.lay.WF ∧ src.lay.WF ∧ dst.lay ≠ [] ∧ dst.exts = src.exts ∧
    dst.Injective ∧ src.Injective ∧ dst.Disjoint src ∧ InBox dst.exts [1, 2] :=
  ⟨⟨0, [⟨5, 0, 10⟩, ⟨1, 0, 3⟩]⟩, ⟨100, [⟨1, 0, 2⟩, ⟨5, 0, 15⟩]⟩, by decide +kernel, by decide +kernel, by simp, by decide +kernel,
    View.injective_of_nodup (by decide +kernel), View.injective_of_nodup (by decide +kernel), View.disjoint_of_forall (by decide +kernel),
    (mem_boxIndices _ _).mp (by decide +kernel)⟩

/-- D = 1 (`fill_exact`, `assignVals1_exact`): a column of a 4×5 array (stride 5, 4 elements, index base 1) -/
example : ∃ (v : View) (vals : List Nat), v.lay.WF ∧ v.lay.length = 1 ∧ (vals.length : Int) = v.size ∧ v.Injective ∧
    InBox v.exts [2] :=
  ⟨⟨2, [⟨5, 5, 20⟩]⟩, [7, 8, 9, 10], by decide +kernel, rfl, by decide +kernel, View.injective_of_nodup (by decide +kernel),
    (mem_boxIndices _ _).mp (by decide +kernel)⟩

/-- `aref_assign_exact`: two 2×3 arrays with extensions `[1,3) × [0,3)`, stored 6 apart -/
example : ∃ (bd bs : Int) (es : List Ext), (∀ e ∈ es, e.first ≤ e.last) ∧
    (bd + nElems es ≤ bs ∨ bs + nElems es ≤ bd) ∧ InBox (⟨bd, Layout.ofExts es⟩ : View).exts [2, 1] :=
  ⟨0, 6, [⟨1, 3⟩, ⟨0, 3⟩], by decide +kernel, by decide +kernel, (mem_boxIndices _ _).mp (by decide +kernel)⟩

/-- `assign_rows_exact` / `assign_range_rows_exact`: a 2×3 array and two rows of three values -/
example : ∃ (v : View) (rows : List (List Nat)), v.lay.WF ∧ 2 ≤ v.lay.length ∧ v.lay.length = 2 ∧ v.Injective ∧
    (rows.length : Int) = v.size ∧ (∀ r ∈ rows, r.length = (boxIndices v.exts.tail).length) :=
  ⟨⟨0, [⟨3, 0, 6⟩, ⟨1, 0, 3⟩]⟩, [[1, 2, 3], [4, 5, 6]], by decide +kernel, by decide +kernel, rfl, View.injective_of_nodup (by decide +kernel),
    by decide +kernel, by decide +kernel⟩

end C05
end Multi
