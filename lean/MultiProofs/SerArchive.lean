/-
  MultiProofs.SerArchive — what a saving archive emits and what a loading archive reads back: `encExts` / `encItems` for
  arrays (`Archive.exts`, `Archive.items`), `storeAt` for `View.serializeAt` over a list of addresses; the class invariant
  `Arr.Inv` across the resize step of array loading.
-/
import MultiModel.Serial
import MultiProofs.C01
import MultiProofs.ElemOrder

namespace Multi
open Archive

variable {τ α : Type}

def encExts (ci : ICodec τ) : List Ext → List τ
  | [] => []
  | e :: es => ci.enc e.first ++ ci.enc e.last ++ encExts ci es

def encItems (c : Codec τ α) : List α → List τ
  | [] => []
  | x :: xs => c.enc x ++ encItems c xs

theorem range_saving (ci : ICodec τ) (e : Ext) (out : List τ) :
    (saving out).range ci e = some (saving (out ++ (ci.enc e.first ++ ci.enc e.last)), e) := by
  simp only [Archive.range, Archive.ampI, bind, Option.bind, pure, List.append_assoc]

theorem exts_saving (ci : ICodec τ) (es : List Ext) (out : List τ) :
    (saving out).exts ci es = some (saving (out ++ encExts ci es), es) := by
  induction es generalizing out with
  | nil => simp [Archive.exts, encExts]
  | cons e es ih => simp only [Archive.exts, range_saving, bind, Option.bind, ih, pure, encExts, List.append_assoc]

theorem items_saving (c : Codec τ α) (xs : List α) (out : List τ) :
    (saving out).items c xs = some (saving (out ++ encItems c xs), xs) := by
  induction xs generalizing out with
  | nil => simp [Archive.items, encItems]
  | cons x xs ih => simp only [Archive.items, Archive.amp, bind, Option.bind, ih, pure, encItems, List.append_assoc]

theorem range_loading (ci : ICodec τ) (hci : ci.Lawful) (e prior : Ext) (rest : List τ) :
    (loading (ci.enc e.first ++ (ci.enc e.last ++ rest))).range ci prior = some (loading rest, e) := by
  simp only [Archive.range, Archive.ampI, hci e.first, hci e.last, bind, Option.bind, Option.map, pure]

theorem exts_loading (ci : ICodec τ) (hci : ci.Lawful) (es prior : List Ext) (hlen : prior.length = es.length) (rest : List τ) :
    (loading (encExts ci es ++ rest)).exts ci prior = some (loading rest, es) := by
  induction es generalizing prior with
  | nil =>
    cases prior with
    | nil => rfl
    | cons _ _ => cases hlen
  | cons e es ih =>
    cases prior with
    | nil => cases hlen
    | cons p ps =>
      simp only [Archive.exts, encExts, List.append_assoc, range_loading ci hci, bind, Option.bind,
        ih ps (Nat.succ.inj hlen), pure]

theorem allRel_length {r : α → α → Prop} : ∀ {xs ys : List α}, AllRel r xs ys → xs.length = ys.length
  | [], [], _ => rfl
  | _ :: _, _ :: _, h => congrArg Nat.succ (allRel_length h.2)
  | [], _ :: _, h => h.elim
  | _ :: _, [], h => h.elim

theorem allRel_map {β : Type} (r : α → α → Prop) (f g : β → α) : ∀ (l : List β), AllRel r (l.map f) (l.map g) ↔ ∀ x ∈ l, r (f x) (g x)
  | [] => by simp [AllRel]
  | x :: l => by simp [AllRel, allRel_map r f g l]

theorem items_loading (c : Codec τ α) (hc : c.Lawful) (xs prior : List α) (hlen : prior.length = xs.length)
    (hx : ∀ x ∈ xs, c.ok x) (hp : ∀ x ∈ prior, c.ok x) (rest : List τ) :
    ∃ ys, (loading (encItems c xs ++ rest)).items c prior = some (loading rest, ys) ∧ AllRel c.eqv ys xs ∧ ∀ y ∈ ys, c.ok y := by
  induction xs generalizing prior with
  | nil =>
    cases prior with
    | nil => exact ⟨[], rfl, trivial, fun _ h => nomatch h⟩
    | cons _ _ => cases hlen
  | cons x xs ih =>
    cases prior with
    | nil => cases hlen
    | cons p ps =>
      obtain ⟨y, hy, hyx, hyok⟩ := hc.law p x (encItems c xs ++ rest) (hp p List.mem_cons_self) (hx x List.mem_cons_self)
      obtain ⟨ys, hys, hrel, hok⟩ := ih ps (Nat.succ.inj hlen) (fun z hz => hx z (List.mem_cons_of_mem _ hz))
        (fun z hz => hp z (List.mem_cons_of_mem _ hz))
      refine ⟨y :: ys, ?_, ⟨hyx, hrel⟩, List.forall_mem_cons.mpr ⟨hyok, hok⟩⟩
      simp only [Archive.items, Archive.amp, encItems, List.append_assoc, hy, Option.map, bind, Option.bind, hys, pure]

theorem Mem.write_same (m : Mem α) (p : Int) (x : α) : m.write p x p = x := if_pos rfl

theorem Mem.write_other (m : Mem α) {p q : Int} (x : α) (h : q ≠ p) : m.write p x q = m q := if_neg h

theorem Mem.write_self (m : Mem α) (p : Int) : m.write p (m p) = m := by
  funext q
  by_cases h : q = p
  · rw [h, Mem.write_same]
  · exact Mem.write_other m _ h

theorem serializeAt_saving (c : Codec τ α) (m : Mem α) : ∀ (ps : List Int) (out : List τ),
    View.serializeAt c (saving out) m ps = some (saving (out ++ encItems c (ps.map m)), m)
  | [], out => by simp [View.serializeAt, encItems]
  | p :: ps, out => by
    simp only [View.serializeAt, Archive.amp, bind, Option.bind, Mem.write_self, serializeAt_saving c m ps, List.map_cons, encItems,
      List.append_assoc]

/-- the memory after storing the values `xs` at the addresses `ps`, in this order (a later store to the same address wins) -/
def storeAt (m : Mem α) : List Int → List α → Mem α
  | [], _ => m
  | _ :: _, [] => m
  | p :: ps, x :: xs => storeAt (m.write p x) ps xs

/-- no other address changes, whether or not the addresses are distinct -/
theorem storeAt_frame : ∀ (ps : List Int) (xs : List α) (m : Mem α) (q : Int), q ∉ ps → storeAt m ps xs q = m q
  | [], _, _, _, _ => rfl
  | _ :: _, [], _, _, _ => rfl
  | p :: ps, x :: xs, m, q, h => by
    rw [List.mem_cons, not_or] at h
    rw [storeAt, storeAt_frame ps xs _ q h.2, Mem.write_other _ _ h.1]

theorem storeAt_read : ∀ (ps : List Int) (xs : List α) (m : Mem α), ps.length = xs.length → ps.Nodup →
    ps.map (storeAt m ps xs) = xs
  | [], [], _, _, _ => rfl
  | [], _ :: _, _, h, _ => nomatch h
  | _ :: _, [], _, h, _ => nomatch h
  | p :: ps, x :: xs, m, hlen, hnd => by
    rw [List.nodup_cons] at hnd
    rw [List.map_cons, storeAt, storeAt_frame ps xs _ p hnd.1, storeAt_read ps xs _ (Nat.succ.inj hlen) hnd.2,
      Mem.write_same]

/-- loading through a list of addresses (distinct or not: overlapping or broadcast views included) consumes exactly the
    tokens of `xs` and stores, address by address, values that compare equal to `xs` -/
theorem serializeAt_loading (c : Codec τ α) (hc : c.Lawful) : ∀ (ps : List Int) (xs : List α) (m : Mem α),
    ps.length = xs.length → (∀ p ∈ ps, c.ok (m p)) → (∀ x ∈ xs, c.ok x) → ∀ (rest : List τ),
    ∃ ys, View.serializeAt c (loading (encItems c xs ++ rest)) m ps = some (loading rest, storeAt m ps ys) ∧
      AllRel c.eqv ys xs
  | [], [], m, _, _, _, rest => ⟨[], rfl, trivial⟩
  | [], _ :: _, _, h, _, _, _ => nomatch h
  | _ :: _, [], _, h, _, _, _ => nomatch h
  | p :: ps, x :: xs, m, hlen, hm, hx, rest => by
    obtain ⟨y, hy, hyx, hyok⟩ := hc.law (m p) x (encItems c xs ++ rest) (hm p List.mem_cons_self) (hx x List.mem_cons_self)
    -- a later address may be `p` again: it then holds `y`
    have hm1 : ∀ q ∈ ps, c.ok ((m.write p y) q) := by
      intro q hq
      by_cases h : q = p
      · rw [h, Mem.write_same]; exact hyok
      · rw [Mem.write_other _ _ h]; exact hm q (List.mem_cons_of_mem _ hq)
    obtain ⟨ys, hys, hrel⟩ := serializeAt_loading c hc ps xs (m.write p y) (Nat.succ.inj hlen) hm1
      (fun z hz => hx z (List.mem_cons_of_mem _ hz)) rest
    refine ⟨y :: ys, ?_, hyx, hrel⟩
    simp only [View.serializeAt, Archive.amp, encItems, List.append_assoc, bind, Option.bind, hy, Option.map]
    exact hys

theorem neqv_self (es : List Ext) : Exts.neqv es es = false := by
  induction es with
  | nil => rfl
  | cons e es ih => simp [Exts.neqv, Ext.eqv_refl, ih]

theorem neqv_eq_not_eqv : ∀ (xs ys : List Ext), Exts.neqv xs ys = !Exts.eqv xs ys
  | [], [] => rfl
  | a :: as, b :: bs => by rw [Exts.neqv, Exts.eqv, neqv_eq_not_eqv as bs, Bool.not_and]
  | [], _ :: _ => rfl
  | _ :: _, [] => rfl

theorem eq_of_not_neqv {xs ys : List Ext} (h : Exts.neqv xs ys = false) (hx : ∀ e ∈ xs, e.norm = e) (hy : ∀ e ∈ ys, e.norm = e) :
    xs = ys :=
  Exts.eq_of_eqv (by rw [neqv_eq_not_eqv] at h; simpa using h) hx hy

theorem Arr.Inv.exts_spec {D : Nat} {ok : α → Prop} {a : Arr α} (h : a.Inv D ok) :
    (∀ e ∈ a.lay.exts, e.first ≤ e.last) ∧ (∀ e ∈ a.lay.exts, e.norm = e) ∧ a.lay.exts.length = D ∧
    a.lay.numElements = nElems a.lay.exts ∧ collapse a.lay.exts = a.lay.exts := by
  obtain ⟨⟨es, hlen, hval, hlay⟩, _, _⟩ := h
  rw [hlay, ofExts_exts hval]
  exact ⟨collapse_ok hval, collapse_norm es, by rw [collapse_length, hlen], by rw [ofExts_numElements hval, nElems_collapse], collapse_idem es⟩

theorem Arr.dflt_inv {ok : α → Prop} (D : Nat) {d : α} (hd : ok d) : (Arr.dflt D d).Inv D ok := by
  refine ⟨⟨List.replicate D ⟨0, 0⟩, List.length_replicate, replicate_zero_ok D, rfl⟩, ?_, ?_⟩
  · show (if D = 0 then [d] else []).length = (Layout.ofExts (List.replicate D ⟨0, 0⟩)).numElements.toNat
    rw [ofExts_numElements (replicate_zero_ok D)]
    by_cases h : D = 0
    · subst h; rfl
    · rw [if_neg h, nElems_replicate_zero h]; rfl
  · intro x hx
    simp only [Arr.dflt] at hx
    split at hx
    · rw [List.mem_singleton.mp hx]; exact hd
    · cases hx

theorem Arr.dflt_get (D : Nat) (d : α) (idx : List Int) : (Arr.dflt D d).get d idx = d := by
  have h : ∀ n, (Arr.dflt D d).data.getD n d = d := fun n => by cases D <;> cases n <;> rfl
  simp only [Arr.get, h, ite_self]

/-- loading what `a` saved into `b`, the state of `b` between the extensions and the elements
    (`if(extensions() != extensions_) { clear(); reextent(extensions_); }`): it reports `a`'s extensions and satisfies
    the class invariant again, so it holds as many elements as `a` -/
theorem resizeStep_spec {D : Nat} {ok : α → Prop} {d : α} (hd : ok d) {a b : Arr α} (ha : a.Inv D ok) (hb : b.Inv D ok) :
    (b.resizeStep d a.lay.exts).lay.exts = a.lay.exts ∧ (b.resizeStep d a.lay.exts).Inv D ok := by
  obtain ⟨vA, nA, lA, _, cA⟩ := ha.exts_spec
  obtain ⟨_, nB, lB, _, _⟩ := hb.exts_spec
  unfold Arr.resizeStep
  by_cases hne : Exts.neqv b.lay.exts a.lay.exts = true
  · -- clear(); reextent(extensions_)
    rw [if_pos hne]
    have hD : D ≠ 0 := by
      intro h0
      rw [List.eq_nil_of_length_eq_zero (lB.trans h0), List.eq_nil_of_length_eq_zero (lA.trans h0)] at hne
      cases hne
    have hclr : b.clear = Arr.dflt D d := by
      have : b.lay.length = D := by simpa [Layout.exts] using lB
      simp [Arr.clear, Arr.dflt, this, hD]
    rw [hclr]
    unfold Arr.reextent
    by_cases heq : Exts.eqv a.lay.exts (Arr.dflt D d).lay.exts = true
    · -- every extent of `a` is empty: the cleared array already has these extensions
      rw [if_pos heq]
      obtain ⟨_, nZ, _⟩ := (Arr.dflt_inv (ok := ok) D hd).exts_spec
      exact ⟨(Exts.eq_of_eqv heq nA nZ).symm, Arr.dflt_inv D hd⟩
    · rw [if_neg heq]
      have y1 := ofExts_exts vA
      have y2 := ofExts_numElements vA
      refine ⟨by simp only; rw [y1, cA], ⟨a.lay.exts, lA, vA, rfl⟩, ?_, fun x hx => ?_⟩
      · simp only [List.length_map]; rw [y1, cA, y2, boxIndices_length_eq _ vA]
      · obtain ⟨idx, _, rfl⟩ := List.mem_map.mp hx
        split
        · rw [Arr.dflt_get]; exact hd
        · exact hd
  · -- extensions compare equal: `b` keeps its block
    rw [if_neg hne]
    exact ⟨eq_of_not_neqv (by simpa using hne) nB nA, hb⟩

theorem Arr.Inv.numElements_eq {D : Nat} {ok : α → Prop} {a b : Arr α} (hb : b.Inv D ok) (ha : a.Inv D ok)
    (h : b.lay.exts = a.lay.exts) : b.lay.numElements = a.lay.numElements := by
  obtain ⟨_, _, _, nb, _⟩ := hb.exts_spec
  obtain ⟨_, _, _, na, _⟩ := ha.exts_spec
  rw [nb, na, h]

end Multi
