/-
  C01 — View algebra: every composed view has the prescribed shape and elements.  An array built from extensions is
  row-major over exactly those (`root_denotes`); each operation, as coded, realises its documented shape and index
  mapping (`op_refines`); hence, by induction on the operation sequence, so does every finite in-domain composition
  (`reachable_denotes`), and no access leaves the array's storage (`reachable_in_bounds`).  The shape functions,
  strides and access paths are then read off the layout.
-/
import MultiProofs.Call

namespace Multi

namespace C01

/-- `array(extensions)`: well-formed, reports the given extensions (collapsed to empty when some extent is
    empty), has `Π sizes` elements, and addresses its elements in row-major order inside `[0, Π sizes)`. -/
theorem root_denotes (es : List Ext) (h : ∀ e ∈ es, e.first ≤ e.last) :
    (Layout.ofExts es).WF ∧ (Layout.ofExts es).exts = collapse es ∧
    (Layout.ofExts es).numElements = nElems es ∧
    ∀ idx, InBox (collapse es) idx →
      (Layout.ofExts es).off idx = rowMajor es idx ∧ 0 ≤ rowMajor es idx ∧ rowMajor es idx < nElems es := by
  induction es with
  | nil =>
    refine ⟨(fun _ h => nomatch h), rfl, rfl, fun idx hidx => ?_⟩
    cases idx with
    | nil => exact ⟨rfl, Int.le_refl 0, Int.zero_lt_one⟩
    | cons _ _ => exact hidx.elim
  | cons e es ih =>
    have hes : ∀ x ∈ es, x.first ≤ x.last := fun x hx => h x (List.mem_cons_of_mem _ hx)
    obtain ⟨iwf, iex, ine, iaddr⟩ := ih hes
    have hsz0 : 0 ≤ e.size := Int.sub_nonneg.mpr (h e List.mem_cons_self)
    simp only [Layout.ofExts, ine]
    by_cases hn : nElems es = 0
    · -- some later extent is empty
      rw [if_neg (not_not_intro hn), hn, Int.mul_zero]
      have hz : nElems (e :: es) = 0 := by rw [nElems, hn, Int.mul_zero]
      refine ⟨.cons (Or.inl rfl) iwf, ?_, ?_, fun idx hidx => ?_⟩
      · show Dim.ext _ :: Layout.exts _ = (if _ then _ else _) :: collapse es
        rw [iex, if_pos (show e.size * nElems es = 0 from hz), Dim.ext_of_nelems_zero (d := ⟨1, _, 0⟩) rfl]
      · show Dim.size _ * _ = _
        rw [Dim.size_of_nelems_zero (d := ⟨1, _, 0⟩) rfl, Int.zero_mul, hz]
      · have hb := rowMajor_bounds (inBox_of_collapse idx hidx)
        rw [hz] at hb
        exact absurd (Int.lt_of_le_of_lt hb.1 hb.2) (Int.lt_irrefl 0)
    · have hnpos : 0 < nElems es := by have := nElems_nonneg hes; omega
      rw [if_pos hn]
      obtain ⟨w1, w2⟩ := Dim.wf_ext_mk (f := e.first) hnpos hsz0
      refine ⟨.cons w1 iwf, ?_, ?_, fun idx hidx => ?_⟩
      · show Dim.ext _ :: Layout.exts _ = (if _ then _ else _) :: collapse es
        rw [iex, w2, norm_eq_collapse_head hn]
      · show Dim.size _ * _ = _
        rw [Dim.size_of_stride_pos hnpos, ine]
        rfl
      · have hb := inBox_of_collapse idx hidx
        obtain ⟨i, r, rfl, -⟩ := inBox_cons hb
        refine ⟨?_, rowMajor_bounds hb⟩
        show (i * nElems es - e.first * nElems es) + _ = (i - e.first) * nElems es + _
        rw [(iaddr r hidx.2).1, Int.sub_mul]

/-- every operation of the view algebra, as coded, realises its documented shape and index mapping -/
theorem op_refines (op : Op) (v : View) (hwf : v.lay.WF) (hd : op.InDomain v) :
    Refines v (op.apply v) (op.specShape v.exts) (op.specMap v.exts) := by
  cases op with
  | index i => exact index_refines v i hwf hd
  | sliced a b => exact sliced_refines v a b hwf hd
  | range a b => exact range_refines v a b hwf hd
  | strided s => exact strided_refines v s hwf hd
  | dropped n => exact dropped_refines v n hwf hd
  | taked n => exact taked_refines v n hwf hd
  | rotated => exact rotated_refines v hwf
  | unrotated => exact unrotated_refines v hwf
  | transposed => exact transposed_refines v hwf hd
  | reversed => exact reversed_refines v hwf
  | diagonal => exact diagonal_refines v hwf hd
  | partitioned n => exact partitioned_refines v n hwf hd
  | chunked c => exact chunked_refines v c hwf hd
  | flatted => exact flatted_refines v hwf hd
  | call args => exact paren_refines args v hwf hd

/-- **C01, main statement.** Every view obtained from `root` by any finite composition of in-domain
    view-forming operations has exactly the extents, and at every valid index tuple designates exactly the
    element of `root`, that composing the operations' documented index mappings prescribes. -/
theorem reachable_denotes (root v : View) (den : Den) (hroot : root.lay.WF) (h : Reach root v den) :
    Refines root v den.shape den.map := by
  induction h with
  | root => exact Refines.id root hroot
  | step op _ hd ih =>
    have r := op_refines op _ ih.1 hd
    rw [ih.2.1] at r
    exact ih.trans r

/-- No access through a reachable view touches storage outside the original array `[base, base + N)`. -/
theorem reachable_in_bounds (base : Int) (es : List Ext) (hes : ∀ e ∈ es, e.first ≤ e.last)
    (v : View) (den : Den) (h : Reach ⟨base, Layout.ofExts es⟩ v den) (idx : List Int) (hidx : InBox den.shape idx) :
    base ≤ v.addr idx ∧ v.addr idx < base + nElems es := by
  obtain ⟨rwf, rex, _, raddr⟩ := root_denotes es hes
  have r := reachable_denotes ⟨base, Layout.ofExts es⟩ v den rwf h
  obtain ⟨e1, b1⟩ := r.2.2 idx hidx
  have b1' : InBox (collapse es) (den.map idx) := by rw [← rex]; exact b1
  obtain ⟨a1, a2, a3⟩ := raddr _ b1'
  rw [e1, addr_eq]
  simp only
  omega

/-- `size`, `sizes`, `num_elements`, `is_empty` agree with the extensions (hence, by `reachable_denotes`,
    with the prescribed shape). -/
theorem shape_functions_agree (v : View) (hwf : v.lay.WF) :
    v.sizes = v.exts.map Ext.size ∧ v.numElements = nElems v.exts ∧ v.size = v.ext.size ∧
    (v.lay ≠ [] → (v.isEmpty = true ↔ v.ext.size = 0)) := by
  have hsizes : ∀ l : Layout, l.WF → l.sizes = l.exts.map Ext.size ∧ l.numElements = nElems l.exts := by
    intro l hl
    induction l with
    | nil => simp [Layout.sizes, Layout.exts, Layout.numElements, nElems]
    | cons d l ih =>
      obtain ⟨i1, i2⟩ := ih hl.tail
      have := hl.head.size_eq
      constructor
      · show d.size :: Layout.sizes l = d.ext.size :: (Layout.exts l).map Ext.size
        rw [this, i1]
      · simp only [Layout.numElements, Layout.exts, List.map_cons, nElems]; rw [this, i2]; rfl
  refine ⟨(hsizes v.lay hwf).1, (hsizes v.lay hwf).2, ?_, ?_⟩
  · cases hv : v.lay with
    | nil => simp [View.size, View.ext, hv, Ext.size]
    | cons d l => simp only [View.size, View.ext, hv]; exact (hv ▸ hwf).head.size_eq
  · intro hne
    obtain ⟨d, l, hv⟩ := List.exists_cons_of_ne_nil hne
    have hd : d.WF := (hv ▸ hwf).head
    simp only [View.isEmpty, Layout.isEmpty, hv, View.ext, beq_iff_eq]
    rw [← hd.size_eq]
    exact ⟨Dim.size_of_nelems_zero, fun h => Decidable.by_contra fun h0 => Int.ne_of_gt (hd.size_pos h0) h⟩

/-- `strides()`: the k-th stride is the address step between consecutive indices of dimension k. -/
theorem strides_are_address_steps (v : View) (pre post : Layout) (d : Dim) (ip iq : List Int) (i : Int)
    (hv : v.lay = pre ++ d :: post) (hlen : ip.length = pre.length) :
    v.addr (ip ++ (i + 1) :: iq) - v.addr (ip ++ i :: iq) = d.stride ∧ v.strides[pre.length]? = some d.stride := by
  refine ⟨?_, by simp [View.strides, Layout.strides, hv]⟩
  rw [addr_eq, addr_eq, hv, off_append_append pre _ ip _ hlen, off_append_append pre _ ip _ hlen]
  simp only [Layout.off]
  rw [Int.add_mul]
  omega

theorem paren_idx_eq_bracket (v : View) (idx : List Int) : v.paren (idx.map Arg.idx) = v.bracket idx := by
  induction idx generalizing v with
  | nil => simp [View.paren, View.bracket]
  | cons i is ih => simp only [List.map_cons, View.paren, View.bracket, List.foldl_cons]; exact ih (v.index i)

theorem foldl_add_shift (l : List Int) (a : Int) : l.foldl (· + ·) a = a + l.foldl (· + ·) 0 := by
  induction l generalizing a with
  | nil => simp
  | cons x l ih => simp only [List.foldl_cons]; rw [ih (a + x), ih (0 + x)]; omega

/-- All access paths to one index tuple reach the same element: chained brackets, call syntax with
    all-index arguments (`apply` forwards to it), and — for zero-based views — cursor indexing. -/
theorem paths_agree (v : View) (idx : List Int) :
    (v.paren (idx.map Arg.idx)).base = v.addr idx ∧
    (v.lay.WF → InBox v.exts idx → (∀ e ∈ v.exts, e.first = 0) → v.cursorAddr idx = v.addr idx) := by
  constructor
  · rw [paren_idx_eq_bracket]; rfl
  · intro hwf hin hz
    rw [addr_eq]
    unfold View.cursorAddr
    congr 1
    have : ∀ (l : Layout) (idx : List Int), l.WF → InBox l.exts idx → (∀ e ∈ l.exts, e.first = 0) →
        (List.map (fun x : Int × Int => x.1 * x.2) (l.strides.zip idx)).foldl (· + ·) 0 = l.off idx := by
      intro l
      induction l with
      | nil => intro idx _ _ _; simp [Layout.strides, Layout.off]
      | cons d l ih =>
        intro idx hl hb hzz
        simp only [Layout.exts, List.map_cons] at hb hzz
        obtain ⟨t, r, rfl, h1, h2, h3⟩ := inBox_cons hb
        have hf : d.ext.first = 0 := hzz _ (by simp)
        have hne : d.nelems ≠ 0 := fun h0 => by
          rw [Dim.ext_of_nelems_zero h0] at h1 h2
          exact Int.lt_irrefl 0 (Int.lt_of_le_of_lt h1 h2)
        have hoff : d.offset = 0 := by rw [hl.head.offset_eq hne, hf, Int.zero_mul]
        simp only [Layout.strides, List.map_cons, List.zip_cons_cons, List.foldl_cons, Layout.off]
        rw [foldl_add_shift]
        have := ih r hl.tail h3 (fun e he => hzz e (List.mem_cons_of_mem _ he))
        simp only [Layout.strides] at this
        rw [this, hoff, Int.mul_comm]; omega
    exact this v.lay idx hwf hin hz

/-- `halved()` is not named by the property (the run exercises it); on a well-formed leading level of even size it IS
    `partitioned(2)`, as the code has it (`layout().halve()` vs the `layout_t<D+1>` built by `partitioned_aux_`) -/
theorem halved_eq_partitioned (b : Int) (d : Dim) (sub : Layout) (hd : d.WF) (heven : d.size.tmod 2 = 0) :
    View.halved ⟨b, d :: sub⟩ = View.partitioned ⟨b, d :: sub⟩ 2 := by
  have key : d.stride * d.size.tdiv 2 = d.nelems.tdiv 2 := by
    have hq : d.size = 2 * d.size.tdiv 2 := by have := Int.mul_tdiv_add_tmod d.size 2; omega
    generalize d.size.tdiv 2 = q at hq ⊢
    rw [hd.nelems_eq, hq, Int.mul_assoc, Int.mul_tdiv_cancel_left _ (by decide), Int.mul_comm]
  simp [View.halved, View.partitioned, Layout.halve, Layout.take, key]

/-- hence `halved()` denotes `(p, q, r…) ↦ (p·(size/2) + q, r…)` with shape `(2, size/2, …)`, like `partitioned(2)` -/
theorem halved_refines (v : View) (hwf : v.lay.WF) (hd : (Op.partitioned 2).InDomain v) :
    Refines v v.halved ((Op.partitioned 2).specShape v.exts) ((Op.partitioned 2).specMap v.exts) := by
  have h := partitioned_refines v 2 hwf hd
  obtain ⟨hne, -, ⟨q, hq⟩⟩ := hd
  obtain ⟨b, l⟩ := v
  obtain ⟨d, sub, rfl⟩ := List.exists_cons_of_ne_nil hne
  have hdwf : d.WF := hwf.head
  rw [View.ext_cons rfl, ← hdwf.size_eq] at hq
  rw [halved_eq_partitioned b d sub hdwf (hq ▸ Int.mul_tmod_right 2 q)]
  exact h

/-- A broadcasted view designates its source view at every index of the added leading dimension. -/
theorem broadcast_designates_source (v : View) (junk i : Int) : (v.broadcasted junk).index i = v := by
  simp [View.broadcasted, View.index]

/-! non-vacuity: a concrete 4×6×2 array and the operation list of the protocol example satisfy every hypothesis -/
example : ∃ v den, Reach ⟨100, Layout.ofExts [⟨0, 4⟩, ⟨0, 6⟩, ⟨0, 2⟩]⟩ v den ∧ den.shape = [⟨0, 2⟩, ⟨0, 2⟩, ⟨0, 4⟩] := by
  let root : View := ⟨100, Layout.ofExts [⟨0, 4⟩, ⟨0, 6⟩, ⟨0, 2⟩]⟩
  have h0 : Reach root root ⟨root.exts, id⟩ := Reach.root
  have h1 := Reach.step (root := root) Op.rotated h0 (by trivial)
  have h2 := Reach.step (root := root) (Op.sliced 1 5) h1 (by decide +kernel)
  have h3 := Reach.step (root := root) (Op.partitioned 2) h2 (by decide +kernel)
  have h4 := Reach.step (root := root) (Op.index 1) h3 (by decide +kernel)
  exact ⟨_, _, h4, by decide +kernel⟩

example : ∃ v den, Reach ⟨0, Layout.ofExts [⟨0, 3⟩, ⟨0, 4⟩, ⟨0, 5⟩]⟩ v den ∧ den.shape = [⟨0, 2⟩, ⟨0, 5⟩] := by
  let root : View := ⟨0, Layout.ofExts [⟨0, 3⟩, ⟨0, 4⟩, ⟨0, 5⟩]⟩
  have h0 : Reach root root ⟨root.exts, id⟩ := Reach.root
  have h1 := Reach.step (root := root) (Op.call [Arg.idx 2, Arg.rng 1 3, Arg.all]) h0 (by decide +kernel)
  exact ⟨_, _, h1, by decide +kernel⟩

end C01

theorem ofExts_exts {es : List Ext} (h : ∀ e ∈ es, e.first ≤ e.last) : (Layout.ofExts es).exts = collapse es :=
  (C01.root_denotes es h).2.1

theorem ofExts_numElements {es : List Ext} (h : ∀ e ∈ es, e.first ≤ e.last) : (Layout.ofExts es).numElements = nElems es :=
  (C01.root_denotes es h).2.2.1

end Multi
