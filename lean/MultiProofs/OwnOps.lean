/-
  MultiProofs.OwnOps — each operation of MultiModel.Owning that works on whole arrays, as coded, yields a valid array
  with the documented value and touches no block other than its own (helper lemmas for C04 / C06).
-/
import MultiProofs.OwnBasic

namespace Multi
namespace Own
variable {α : Type}

/-- what one operation does from the point of view of the pool: from heap `h` to `h'`, modifying at most the blocks in `M`,
    producing the array `a'` with value `val` whose block is one of `M` or was not live before -/
structure Outcome (h h' : Heap α) (M : Nat → Prop) (a' : Arr) (val : AbsArr α) : Prop where
  frame : Frame h h' M
  ub    : h'.ub = h.ub
  asrt  : h'.asrt = h.asrt
  valid : Valid h' a'
  abs   : absArr h' a' = val
  own   : a'.numElements ≠ 0 → ∀ b, a'.base = some b → (M b ∨ h.blocks.length ≤ b)
  len   : h.blocks.length ≤ h'.blocks.length

theorem not_live_fresh (h : Heap α) (cs : List (Cell α)) : ¬ Live h h.blocks.length cs :=
  fun hl => Nat.lt_irrefl _ hl.lt

theorem alloc_snd (h : Heap α) {n : Int} (hn : n ≠ 0) : (h.alloc n).2 = some h.blocks.length := by rw [alloc_pos h hn]

theorem toNat_ne_zero {n : Int} (h0 : 0 ≤ n) (hn : n ≠ 0) : n.toNat ≠ 0 := by omega

/-- the set of blocks an array owns: its block if it has elements -/
def ownBlock (a : Arr) : Nat → Prop := fun b => a.numElements ≠ 0 ∧ a.base = some b

theorem Outcome.same {h : Heap α} {a : Arr} (hv : Valid h a) : Outcome h h (ownBlock a) a (absArr h a) :=
  ⟨Frame.refl _ _, rfl, rfl, hv, rfl, fun hn _ hb => Or.inl ⟨hn, hb⟩, Nat.le_refl _⟩

theorem Outcome.mono {h h' : Heap α} {M M' : Nat → Prop} {a' : Arr} {val : AbsArr α} (ho : Outcome h h' M a' val)
    (hM : ∀ b, M b → M' b) : Outcome h h' M' a' val :=
  ⟨ho.frame.mono hM, ho.ub, ho.asrt, ho.valid, ho.abs, fun hn b hb => (ho.own hn b hb).imp (hM b) id, ho.len⟩

/-- afterwards the block of the resulting array is overwritten with `cells` -/
theorem Outcome.setBlock {h h' : Heap α} {M : Nat → Prop} {a' : Arr} {val : AbsArr α} (ho : Outcome h h' M a' val) {d : Nat}
    (hd : a'.base = some d) (hn : a'.numElements ≠ 0) (cells : List (Cell α)) (hlen : cells.length = a'.numElements.toNat) :
    Outcome h (h'.setBlock d (some cells)) M a' ⟨val.exts, cells⟩ := by
  obtain ⟨b, hb, hl, _⟩ := ho.valid.block hn
  obtain rfl : b = d := Option.some.inj (hb.symm.trans hd)
  have hl' := hl.setBlock_same cells
  refine ⟨fun x cs hx hm => (ho.frame x cs hx hm).setBlock_other ?_ _, ho.ub, ho.asrt,
    ⟨ho.valid.shape, Or.inr ⟨b, cells, hd, hl', hlen⟩⟩, absArr_eq (congrArg AbsArr.exts ho.abs) ?_, ho.own, ?_⟩
  · -- the block is one of `M` or did not exist in `h`
    intro e
    rcases ho.own hn b hd with hm' | hf
    · exact hm (e ▸ hm')
    · exact absurd hx.lt (Nat.not_lt.mpr (e ▸ hf))
  · rw [cellsOf_live hd hl', ← hlen, List.take_length]
  · exact Nat.le_trans ho.len (Nat.le_of_eq List.length_set.symm)

/-- overwrite the own block completely with `cells` -/
theorem outcome_inplace {h : Heap α} {a : Arr} (hv : Valid h a) (h2 : Heap α) (cells : List (Cell α))
    (hlen : cells.length = a.numElements.toNat)
    (hz : a.numElements = 0 → h2 = h)
    (hnz : a.numElements ≠ 0 → ∀ d, a.base = some d → Live h d (cellsOf h a) → h2 = h.setBlock d (some cells)) :
    Outcome h h2 (ownBlock a) a ⟨a.exts, cells⟩ := by
  by_cases h0 : a.numElements = 0
  · rw [hz h0, List.eq_nil_of_length_eq_zero (hlen.trans (by rw [h0]; rfl)), ← cellsOf_zero h0]
    exact Outcome.same hv
  · obtain ⟨d, hd, hl, _⟩ := hv.block h0
    rw [hnz h0 d hd hl]
    exact (Outcome.same hv).setBlock hd h0 cells hlen

/-- allocate a block for extensions `es`, then initialise it completely with `cells` -/
theorem outcome_fresh {h : Heap α} {es : List Ext} (hes : ExtsOK es) (h2 : Heap α) (cells : List (Cell α))
    (hlen : cells.length = (nElems es).toNat)
    (hz : nElems es = 0 → h2 = h)
    (hnz : nElems es ≠ 0 → h2 = (h.alloc (nElems es)).1.setBlock h.blocks.length (some cells)) :
    Outcome h h2 (fun _ => False) ⟨(h.alloc (nElems es)).2, Layout.ofExts es⟩ ⟨collapse es, cells⟩ := by
  have hne : (⟨(h.alloc (nElems es)).2, Layout.ofExts es⟩ : Arr).numElements = nElems es := ofExts_numElements hes
  by_cases h0 : nElems es = 0
  · rw [hz h0, List.eq_nil_of_length_eq_zero (hlen.trans (by rw [h0]; rfl))]
    exact ⟨Frame.refl _ _, rfl, rfl, ⟨⟨es, hes, rfl⟩, Or.inl (hne.trans h0)⟩,
      absArr_eq (ofExts_exts hes) (cellsOf_zero (hne.trans h0)), fun hn => absurd (hne.trans h0) hn, Nat.le_refl _⟩
  · rw [hnz h0]
    have hp := alloc_snd h h0
    have hl := alloc_live h h0
    obtain ⟨-, hub, hasrt, hlen'⟩ := alloc_frame h (nElems es)
    have ho : Outcome h (h.alloc (nElems es)).1 (fun _ => False) ⟨(h.alloc (nElems es)).2, Layout.ofExts es⟩
        ⟨collapse es, List.replicate (nElems es).toNat none⟩ :=
      ⟨frame_alloc h _ _, hub, hasrt, ⟨⟨es, hes, rfl⟩, Or.inr ⟨_, _, hp, hl, by rw [hne, List.length_replicate]⟩⟩,
        absArr_eq (ofExts_exts hes) (by rw [cellsOf_live hp hl, hne]; exact List.take_of_length_le (Nat.le_of_eq List.length_replicate)),
        fun _ b hb => Or.inr (Nat.le_of_eq (Option.some.inj (hp.symm.trans hb))), hlen'⟩
    exact ho.setBlock hp (hne ▸ h0) cells (hlen.trans (by rw [hne]))

/-- value of a freshly constructed `array(extensions)`: value-initialised elements, or indeterminate ones for a trivial `T` -/
def initCell (cfg : Cfg α) : Cell α := if cfg.trivial then none else some cfg.dflt

theorem fillCtor_outcome (h : Heap α) {es : List Ext} (hes : ExtsOK es) (v : α) :
    Outcome h (fillCtor h es v).1 (fun _ => False) (fillCtor h es v).2
      ⟨collapse es, List.replicate (nElems es).toNat (some v)⟩ := by
  unfold fillCtor
  simp only [ofExts_numElements hes]
  apply outcome_fresh hes
  · simp
  · intro h0; simp [h0, alloc_zero, Heap.fillN]
  · intro h0
    rw [alloc_snd h h0, fillN_live (alloc_live h h0) List.length_replicate]

theorem extsCtor_outcome (cfg : Cfg α) (h : Heap α) {es : List Ext} (hes : ExtsOK es) :
    Outcome h (extsCtor cfg h es).1 (fun _ => False) (extsCtor cfg h es).2
      ⟨collapse es, List.replicate (nElems es).toNat (initCell cfg)⟩ := by
  rcases cfg with ⟨_ | _, dflt⟩
  · -- a non-trivial `T`: the block is filled with `T{}`
    exact fillCtor_outcome h hes dflt
  · -- a trivial `T`: the block stays as allocated
    unfold extsCtor valueConstruct initCell
    simp only [ofExts_numElements hes, if_true]
    exact outcome_fresh hes _ _ List.length_replicate (fun h0 => by rw [h0, alloc_zero])
      (fun h0 => (Heap.setBlock_self (alloc_live h h0)).symm)

/-- allocate a block for `es` (which have the extensions and size of `other`) and copy `other`'s elements into it -/
theorem copy_fresh (h : Heap α) {other : Arr} (hv : Valid h other) {es : List Ext} (hes : ExtsOK es)
    (hc : collapse es = other.exts) (hne : nElems es = other.numElements) :
    Outcome h ((h.alloc (nElems es)).1.copyN other.base (h.alloc (nElems es)).2 (nElems es).toNat) (fun _ => False)
      ⟨(h.alloc (nElems es)).2, Layout.ofExts es⟩ (absArr h other) := by
  have hlen := hv.cells_length
  rw [← hne] at hlen
  show Outcome _ _ _ _ ⟨other.exts, cellsOf h other⟩
  rw [← hc]
  apply outcome_fresh hes _ _ hlen
  · intro h0; simp [h0, alloc_zero, Heap.copyN]
  · intro h0
    obtain ⟨b, hb, hl, _⟩ := hv.block (hne ▸ h0)
    rw [alloc_snd h h0, hb, copyN_live ((alloc_frame h _).1 _ _ hl) (alloc_live h h0) (fun e => not_live_fresh h _ (e ▸ hl)) hlen
      List.length_replicate]

/-- copy constructor (and the constructors from an array of another element type): the value of the source -/
theorem copyCtor_outcome (h : Heap α) {other : Arr} (hv : Valid h other) :
    Outcome h (copyCtor h other).1 (fun _ => False) (copyCtor h other).2 (absArr h other) := by
  unfold copyCtor
  simp only [hv.rebuild.2]
  rw [← hv.nElems_exts]
  exact copy_fresh h hv hv.exts_ok hv.exts_fix hv.nElems_exts

/-- extensions of the array built from a range of `count` sub-arrays with extensions `inner` -/
def rangeExts (count : Int) (inner : List Ext) : List Ext :=
  ⟨0, count⟩ :: (if count = 0 then List.replicate inner.length ⟨0, 0⟩ else inner)

theorem rangeCtor_outcome (h : Heap α) (count : Int) (inner : List Ext) (vals : List α) (hes : ExtsOK (rangeExts count inner))
    (hlen : (vals.length : Int) = nElems (rangeExts count inner)) :
    Outcome h (rangeCtor h count inner vals).1 (fun _ => False) (rangeCtor h count inner vals).2
      ⟨collapse (rangeExts count inner), vals.map some⟩ := by
  have hl : vals.length = (nElems (rangeExts count inner)).toNat := by omega
  unfold rangeCtor
  unfold rangeExts at hes hl ⊢
  simp only [ofExts_numElements hes]
  apply outcome_fresh hes _ _ (by rw [List.length_map, hl])
  · intro h0
    rw [h0] at hl
    rw [h0, alloc_zero, List.eq_nil_of_length_eq_zero hl]
    rfl
  · intro h0
    rw [alloc_snd h h0, writeList_live (alloc_live h h0) vals (by rw [List.length_replicate, hl])]

theorem emptyLay_numElements {D : Nat} (hD : D ≠ 0) : (emptyLay D).numElements = 0 := by
  unfold emptyLay; rw [ofExts_numElements (replicate_zero_ok D), nElems_replicate_zero hD]

theorem emptyLay_exts (D : Nat) : (emptyLay D).exts = List.replicate D ⟨0, 0⟩ := by
  unfold emptyLay; rw [ofExts_exts (replicate_zero_ok D), collapse_replicate_zero]

/-- an array with the empty layout is valid whatever its `base_` and denotes the empty value -/
theorem empty_valid (h : Heap α) (p : Option Nat) {D : Nat} (hD : D ≠ 0) :
    Valid h ⟨p, emptyLay D⟩ ∧ absArr h ⟨p, emptyLay D⟩ = ⟨List.replicate D ⟨0, 0⟩, []⟩ := by
  have hz : (⟨p, emptyLay D⟩ : Arr).numElements = 0 := emptyLay_numElements hD
  refine ⟨⟨⟨_, replicate_zero_ok D, rfl⟩, Or.inl hz⟩, ?_⟩
  apply AbsArr.ext'
  · exact emptyLay_exts D
  · exact cellsOf_zero hz

theorem isEmpty_emptyLay (p : Option Nat) {D : Nat} (hD : D ≠ 0) : IsEmpty ⟨p, emptyLay D⟩ :=
  ⟨emptyLay_numElements hD, fun e he => by
    have he' : e ∈ (emptyLay D).exts := he
    rw [emptyLay_exts] at he'
    exact (List.mem_replicate.mp he').2⟩

theorem deallocate_empty (h : Heap α) (p : Option Nat) {D : Nat} (hD : D ≠ 0) : deallocate h ⟨p, emptyLay D⟩ = h :=
  if_neg (fun hn => hn (emptyLay_numElements hD))

/-- `deallocate()`: only the array's own block changes, and it stays in the list of blocks (as a released one) -/
theorem deallocate_frame {h : Heap α} {a : Arr} (hv : Valid h a) :
    Frame h (deallocate h a) (ownBlock a) ∧ (deallocate h a).ub = h.ub ∧ (deallocate h a).asrt = h.asrt ∧
      (deallocate h a).blocks.length = h.blocks.length := by
  unfold deallocate
  by_cases hz : a.numElements = 0
  · rw [if_neg (not_not_intro hz)]
    exact ⟨Frame.refl _ _, rfl, rfl, rfl⟩
  · obtain ⟨b, hb, hl, _⟩ := hv.block hz
    rw [if_pos hz, hb, dealloc_live hl]
    exact ⟨(frame_setBlock h b none).mono (fun x e => ⟨hz, e ▸ hb⟩), rfl, rfl, List.length_set⟩

/-- release the old storage, then build a fresh array: only the old block is touched -/
theorem outcome_after_dealloc {h : Heap α} {a : Arr} (hv : Valid h a) {h2 : Heap α} {a' : Arr} {val : AbsArr α}
    (ho : Outcome (deallocate h a) h2 (fun _ => False) a' val) : Outcome h h2 (ownBlock a) a' val := by
  obtain ⟨f1, u1, s1, l1⟩ := deallocate_frame hv
  exact ⟨f1.trans (ho.frame.mono (fun _ hf => False.elim hf)), ho.ub.trans u1, ho.asrt.trans s1, ho.valid, ho.abs,
    fun hn b hb => (ho.own hn b hb).imp False.elim (l1 ▸ ·), l1 ▸ ho.len⟩

theorem Valid.after_dealloc {h : Heap α} {a other : Arr} (hva : Valid h a) (hvo : Valid h other)
    (hsep : a.numElements ≠ 0 → other.numElements ≠ 0 → a.base ≠ other.base) :
    Valid (deallocate h a) other ∧ cellsOf (deallocate h a) other = cellsOf h other := by
  apply hvo.frame (deallocate_frame hva).1
  intro hn b hb hm
  exact hsep hm.1 hn (by rw [hm.2, hb])

/-- build the new array first, release the old block afterwards -/
theorem outcome_then_dealloc {h h3 : Heap α} {a a' : Arr} {val : AbsArr α} (hv : Valid h a)
    (ho : Outcome h h3 (fun _ => False) a' val) : Outcome h (deallocate h3 a) (ownBlock a) a' val := by
  obtain ⟨va3, _⟩ := hv.frame ho.frame (fun _ _ _ hf => hf)
  obtain ⟨f3, u3, s3, l3⟩ := deallocate_frame va3
  obtain ⟨v4, c4⟩ := va3.after_dealloc ho.valid (fun hna hn e => by
    -- the old block existed in `h`, the new one did not
    obtain ⟨b, hb, hl, _⟩ := hv.block hna
    exact absurd hl.lt (Nat.not_lt.mpr ((ho.own hn b (e ▸ hb)).resolve_left id)))
  exact ⟨(ho.frame.mono (fun _ hf => False.elim hf)).trans f3, u3.trans ho.ub, s3.trans ho.asrt, v4,
    (absArr_eq rfl c4).trans ho.abs, fun hn b hb => (ho.own hn b hb).imp False.elim id, l3 ▸ ho.len⟩

theorem clear_outcome {h : Heap α} {a : Arr} (hv : Valid h a) (hD : a.dim ≠ 0) :
    Outcome h (clear h a).1 (ownBlock a) (clear h a).2 ⟨List.replicate a.exts.length ⟨0, 0⟩, []⟩ := by
  unfold clear
  rw [exts_length]
  obtain ⟨f1, u1, s1, l1⟩ := deallocate_frame hv
  obtain ⟨v1, a1⟩ := empty_valid (deallocate h a) a.base hD
  exact ⟨f1, u1, s1, v1, a1, fun hn => absurd (emptyLay_numElements hD) hn, Nat.le_of_eq l1.symm⟩

/-- `copy_n` from another array with the same extensions into the own block -/
theorem copy_inplace {h : Heap α} {self other : Arr} (hvs : Valid h self) (hvo : Valid h other) (hx : self.exts = other.exts)
    (hsep : self.numElements ≠ 0 → other.numElements ≠ 0 → self.base ≠ other.base) :
    Outcome h (h.copyN other.base self.base other.numElements.toNat) (ownBlock self) self (absArr h other) := by
  have hn : self.numElements = other.numElements := by rw [← hvs.nElems_exts, ← hvo.nElems_exts, hx]
  show Outcome _ _ _ _ ⟨other.exts, cellsOf h other⟩
  rw [← hx, ← hn]
  apply outcome_inplace hvs _ _ (hn ▸ hvo.cells_length)
  · intro h0; simp [h0, Heap.copyN]
  · intro h0 d hd hld
    obtain ⟨s, hs, hls, hsl⟩ := hvo.block (hn ▸ h0)
    rw [hs, hd, copyN_live hls hld (fun e => hsep h0 (hn ▸ h0) (by rw [hd, hs, e])) (hn ▸ hsl) hvs.cells_length]

/-- copy assignment from a different array: the value of the source -/
theorem copyAssign_outcome {h : Heap α} {self other : Arr} (hvs : Valid h self) (hvo : Valid h other)
    (hsep : self.numElements ≠ 0 → other.numElements ≠ 0 → self.base ≠ other.base) :
    Outcome h (copyAssign h self other).1 (ownBlock self) (copyAssign h self other).2 (absArr h other) := by
  unfold copyAssign
  by_cases heq : Exts.eqv self.exts other.exts = true
  · simp only [heq, if_true]
    exact copy_inplace hvs hvo (Exts.eq_of_eqv heq hvs.exts_normal hvo.exts_normal) hsep
  · simp only [heq, Bool.false_eq_true, if_false]
    obtain ⟨es, hes, hlay, hc, hne⟩ := hvo.of_exts
    obtain ⟨v1, c1⟩ := hvs.after_dealloc hvo hsep
    have := outcome_after_dealloc hvs (copy_fresh (deallocate h self) v1 hes hc.symm hne.symm)
    rw [absArr_eq rfl c1] at this
    simp only [clear, show other.lay.numElements = nElems es from hne]
    rw [hlay]
    exact this

theorem fill_inplace {h : Heap α} {a : Arr} (hv : Valid h a) (c : Cell α) :
    Outcome h (h.fillN a.base a.numElements.toNat c) (ownBlock a) a ⟨a.exts, List.replicate a.numElements.toNat c⟩ :=
  outcome_inplace hv _ _ List.length_replicate (fun h0 => by simp [h0, Heap.fillN])
    (fun _ d hd hl => by rw [hd, fillN_live hl hv.cells_length])

/-- `assign(extensions, value)`: the requested extensions, every element equal to the value -/
theorem assignFill_outcome {h : Heap α} {self : Arr} (hv : Valid h self) {es : List Ext} (hes : ExtsOK es) (v : α) :
    Outcome h (assignFill h self es v).1 (ownBlock self) (assignFill h self es v).2
      ⟨collapse es, List.replicate (nElems es).toNat (some v)⟩ := by
  unfold assignFill
  by_cases heq : Exts.eqv self.exts es = true
  · simp only [heq, if_true]
    have hx : collapse es = self.exts := eqv_collapse _ _ hv.exts_fix heq
    have hn : nElems es = self.numElements := by rw [← nElems_collapse, hx, hv.nElems_exts]
    rw [hx, hn]
    exact fill_inplace hv (some v)
  · simp only [heq, Bool.false_eq_true, if_false, clear]
    exact outcome_after_dealloc hv (fillCtor_outcome (deallocate h self) hes v)

/-- `reextent(x) &&`: the requested extensions, every element value-initialised (or indeterminate); a no-op for the current extensions -/
theorem reextentMoved_outcome (cfg : Cfg α) {h : Heap α} {self : Arr} (hv : Valid h self) {x : List Ext} (hes : ExtsOK x) :
    Outcome h (reextentMoved cfg h self x).1 (ownBlock self) (reextentMoved cfg h self x).2
      (if Exts.eqv x self.exts = true then absArr h self else ⟨collapse x, List.replicate (nElems x).toNat (initCell cfg)⟩) := by
  unfold reextentMoved
  by_cases heq : Exts.eqv x self.exts = true
  · simp only [heq, if_true]
    exact Outcome.same hv
  · simp only [heq, Bool.false_eq_true, if_false]
    exact outcome_after_dealloc hv (extsCtor_outcome cfg (deallocate h self) hes)

/-- the same storage seen through the layout of other extensions with the same number of elements: the same flat element sequence -/
theorem Outcome.relayout {h h' : Heap α} {M : Nat → Prop} {a' : Arr} {val : AbsArr α} (ho : Outcome h h' M a' val) {es : List Ext}
    (hes : ExtsOK es) (hn : nElems es = a'.numElements) :
    Outcome h h' M ⟨a'.base, Layout.ofExts es⟩ ⟨collapse es, val.elems⟩ := by
  have hnum : (⟨a'.base, Layout.ofExts es⟩ : Arr).numElements = a'.numElements := (ofExts_numElements hes).trans hn
  refine ⟨ho.frame, ho.ub, ho.asrt, ⟨⟨es, hes, rfl⟩, ?_⟩, absArr_eq (ofExts_exts hes) ?_, fun hne b hb => ho.own (hnum ▸ hne) b hb, ho.len⟩
  · rw [hnum]; exact ho.valid.store
  · unfold cellsOf
    rw [hnum]
    exact congrArg AbsArr.elems ho.abs

theorem reshape_eq (h : Heap α) {self : Arr} {es : List Ext} (hes : ExtsOK es) (hn : nElems es = self.numElements) :
    reshape h self es = (h, ⟨self.base, Layout.ofExts es⟩) := by
  simp [reshape, Heap.check, ofExts_numElements hes, hn]

/-- `reshape(extensions)` with the same number of elements: same heap, same block, same flat element sequence, new extensions -/
theorem reshape_outcome {h : Heap α} {self : Arr} (hv : Valid h self) {es : List Ext} (hes : ExtsOK es)
    (hn : nElems es = self.numElements) :
    Outcome h (reshape h self es).1 (ownBlock self) (reshape h self es).2 ⟨collapse es, cellsOf h self⟩ := by
  rw [reshape_eq h hes hn]
  exact (Outcome.same hv).relayout hes hn

/-- default constructor, D ≥ 1: empty, owns nothing -/
theorem defaultCtor_outcome (cfg : Cfg α) (h : Heap α) {D : Nat} (hD : D ≠ 0) :
    Outcome h (defaultCtor cfg h D).1 (fun _ => False) (defaultCtor cfg h D).2 ⟨List.replicate D ⟨0, 0⟩, []⟩ := by
  cases D with
  | zero => exact absurd rfl hD
  | succ D =>
    simp only [defaultCtor]
    obtain ⟨v1, a1⟩ := empty_valid h none hD
    exact ⟨Frame.refl _ _, rfl, rfl, v1, a1, fun hn => absurd (emptyLay_numElements hD) hn, Nat.le_refl _⟩

/-- `reextent` to the current extensions: same block, same layout, same heap -/
theorem reextent_same (cfg : Cfg α) (h : Heap α) (a : Arr) (x : List Ext) (fill : Option α)
    (hx : Exts.eqv x a.exts = true) : reextent cfg h a x fill = (h, a) := by
  unfold reextent; simp [hx]

theorem Valid.view_wf {h : Heap α} {a : Arr} (hv : Valid h a) : a.view.lay.WF := by
  obtain ⟨es, hes, hlay⟩ := hv.shape
  show a.lay.WF
  rw [hlay]; exact (C01.root_denotes es hes).1

theorem Valid.addr {h : Heap α} {a : Arr} (hv : Valid h a) {idx : List Int} (hidx : InBox a.exts idx) :
    a.view.addr idx = rowMajor a.exts idx ∧ 0 ≤ rowMajor a.exts idx ∧ rowMajor a.exts idx < a.numElements := by
  obtain ⟨es, hes, hlay, hx, hn⟩ := hv.of_exts
  rw [hx] at hidx
  have hce := collapse_of_inBox es idx hidx
  obtain ⟨_, _, hnum, haddr⟩ := C01.root_denotes es hes
  obtain ⟨a1, a2, a3⟩ := haddr idx hidx
  rw [hx, hce, hn]
  refine ⟨?_, a2, a3⟩
  rw [addr_eq]; simp only [Arr.view, hlay, a1]; omega

theorem Valid.addr_pos {h : Heap α} {a : Arr} (hv : Valid h a) {idx : List Int} (hidx : InBox a.exts idx) :
    0 ≤ a.view.addr idx ∧ (a.view.addr idx).toNat < (cellsOf h a).length := by
  obtain ⟨e1, e2, -⟩ := hv.addr hidx
  rw [e1, hv.cells_length]
  exact ⟨e2, hv.nElems_exts ▸ rank_lt hidx⟩

theorem readAt_valid {h : Heap α} {a : Arr} (hv : Valid h a) {idx : List Int} (hidx : InBox a.exts idx) :
    readAt h a idx = (cellsOf h a)[(rowMajor a.exts idx).toNat]? ∧ (rowMajor a.exts idx).toNat < (cellsOf h a).length := by
  obtain ⟨e1, e2, e3⟩ := hv.addr hidx
  obtain ⟨b, hb, hl, _⟩ := hv.block (by omega)
  unfold readAt
  rw [hb, read_live hl (hv.addr_pos hidx).1, ← e1]
  exact ⟨rfl, (hv.addr_pos hidx).2⟩

/-- element write `A[i][j]… = v` at an index tuple inside the extensions: that element changes, nothing else -/
theorem writeAt_outcome {h : Heap α} {a : Arr} (hv : Valid h a) {idx : List Int} (hidx : InBox a.exts idx) (v : α) :
    Outcome h (writeAt h a idx v) (ownBlock a) a ⟨a.exts, (cellsOf h a).set (rowMajor a.exts idx).toNat (some v)⟩ := by
  obtain ⟨e1, e2, e3⟩ := hv.addr hidx
  unfold writeAt
  rw [← e1]
  exact outcome_inplace hv _ _ (List.length_set.trans hv.cells_length) (fun h0 => by omega)
    (fun _ d hd hl => by rw [hd, write_live hl (hv.addr_pos hidx).1 (hv.addr_pos hidx).2])

/-- move construction from the result (same block, layout rebuilt from the extensions): same heap, same value -/
theorem Outcome.moved {h h' : Heap α} {M : Nat → Prop} {a' : Arr} {val : AbsArr α} (ho : Outcome h h' M a' val) :
    Outcome h h' M (moveCtor a').1 val := by
  obtain rfl := ho.abs
  have := ho.relayout ho.valid.exts_ok ho.valid.nElems_exts
  rw [ho.valid.exts_fix] at this
  exact this

end Own
end Multi
