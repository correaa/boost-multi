/-
  MultiProofs.Basic — levels, extensions and boxes: the theory every area rests on.  A well-formed level is empty or
  `(stride, first·stride, size·stride)` (`Dim.WF.cases`), so that its extension and size are the ones the library
  reports; an index tuple inside a box has a row-major rank below the number of elements, and distinct tuples have
  distinct ranks (two-digit arithmetic: `mul_add_lt`, `divmod_unique`); `collapse` gives the extensions an array
  reports, and on those the library's `==` is equality (`Exts.eq_of_eqv`).
-/
import MultiProofs.Lemmas

namespace Multi

theorem bracket_base (v : View) (idx : List Int) : (v.bracket idx).base = v.base + v.lay.off idx := by
  obtain ⟨b, l⟩ := v
  induction idx generalizing b l with
  | nil => cases l <;> exact (Int.add_zero b).symm
  | cons i is ih =>
    cases l with
    | nil => exact ih b []
    | cons d sub => exact (ih _ sub).trans (Int.add_assoc _ _ _)

theorem addr_eq (v : View) (idx : List Int) : v.addr idx = v.base + v.lay.off idx := by
  unfold View.addr; exact bracket_base v idx

/-- a two-digit number in radix `N`, the leading digit below `n` and the other in a window of `N` values from `f` on -/
theorem mul_add_lt {x n r N f : Int} (hx0 : 0 ≤ x) (hx : x < n) (hr0 : f ≤ r) (hr : r < f + N) :
    f ≤ x * N + r ∧ x * N + r < f + n * N := by
  have hN : 0 ≤ N := by omega
  have h1 := Int.mul_nonneg hx0 hN
  have h2 := Int.mul_le_mul_of_nonneg_right (Int.add_one_le_of_lt hx) hN
  rw [Int.add_mul, Int.one_mul] at h2
  omega

theorem tdiv_tmod_bounds {k n N : Int} (hk0 : 0 ≤ k) (hk : k < n * N) (hN : 0 < N) :
    (0 ≤ k.tdiv N ∧ k.tdiv N < n) ∧ (0 ≤ k.tmod N ∧ k.tmod N < N) ∧ k.tdiv N * N + k.tmod N = k := by
  rw [Int.tdiv_eq_ediv_of_nonneg hk0, Int.tmod_eq_emod_of_nonneg hk0]
  exact ⟨⟨Int.ediv_nonneg hk0 (Int.le_of_lt hN), Int.ediv_lt_of_lt_mul hN hk⟩,
    ⟨Int.emod_nonneg k (Int.ne_of_gt hN), Int.emod_lt_of_pos k hN⟩, Int.ediv_mul_add_emod k N⟩

/-- uniqueness of quotient and remainder, the remainder taken in any window of `k` consecutive values -/
theorem divmod_unique {p p' q q' k f : Int} (hq : f ≤ q ∧ q < f + k) (hq' : f ≤ q' ∧ q' < f + k)
    (h : p * k + q = p' * k + q') : p = p' ∧ q = q' := by
  have hk : k ≠ 0 := by omega
  have e : ∀ {p q : Int}, f ≤ q ∧ q < f + k → (p * k + q - f) / k = p := fun {p q} hq => by
    rw [Int.add_sub_assoc, Int.add_comm, Int.add_mul_ediv_right _ _ hk,
      Int.ediv_eq_zero_of_lt (Int.sub_nonneg.mpr hq.1) (by omega), Int.zero_add]
  have hp : p = p' := by rw [← e (p := p) hq, h, e hq']
  subst hp
  exact ⟨rfl, Int.add_left_cancel h⟩

theorem norm_of_pos {f n : Int} (hn : 0 < n) : Ext.norm ⟨f, f + n⟩ = ⟨f, f + n⟩ :=
  if_neg (by rw [show f + n - f = n from Int.sub_eq_iff_eq_add'.mpr rfl]; exact Int.ne_of_gt hn)

theorem norm_of_zero {f : Int} : Ext.norm ⟨f, f + 0⟩ = ⟨0, 0⟩ :=
  if_pos (by rw [Int.add_zero]; exact Int.sub_self f)

theorem Ext.norm_mem {e : Ext} {t : Int} (h1 : e.norm.first ≤ t) (h2 : t < e.norm.last) :
    e.first ≤ t ∧ t < e.last := by
  unfold Ext.norm at h1 h2
  by_cases h : e.last - e.first = 0
  · rw [if_pos h] at h1 h2
    exact absurd (Int.lt_of_le_of_lt h1 h2) (Int.lt_irrefl 0)
  · rw [if_neg h] at h1 h2
    exact ⟨h1, h2⟩

/-- an extension as the library reports it is a fixed point of `Ext.norm`: an empty one is `[0,0)` -/
theorem Ext.eq_zero_of_norm {e : Ext} (h : e.norm = e) (hs : e.size = 0) : e = ⟨0, 0⟩ := by
  rw [← h]
  exact if_pos hs

theorem Ext.eqv_refl (e : Ext) : e.eqv e = true := by simp [Ext.eqv]

/-- the library's `==` on ranges: all empty ranges are equal -/
theorem Ext.eqv_iff (p q : Ext) : p.eqv q = true ↔ (p.size = 0 ∧ q.size = 0) ∨ p = q := by
  cases p with | mk pf pl => cases q with | mk qf ql =>
  simp only [Ext.eqv, Ext.isEmpty, Ext.size, Bool.or_eq_true, Bool.and_eq_true, beq_iff_eq, Ext.mk.injEq, Int.sub_eq_zero]
  rw [@eq_comm _ pl pf, @eq_comm _ ql qf]

theorem Exts.eqv_refl (es : List Ext) : Exts.eqv es es = true := by
  induction es with
  | nil => rfl
  | cons e es ih => simp [Exts.eqv, Ext.eqv_refl, ih]

/-- on extensions as the library reports them, its `==` is equality -/
theorem Exts.eq_of_eqv : ∀ {xs ys : List Ext}, Exts.eqv xs ys = true → (∀ e ∈ xs, e.norm = e) → (∀ e ∈ ys, e.norm = e) → xs = ys
  | [], [], _, _, _ => rfl
  | a :: as, b :: bs, h, hx, hy => by
    obtain ⟨h1, h2⟩ : a.eqv b = true ∧ Exts.eqv as bs = true := Bool.and_eq_true_iff.mp h
    obtain ⟨ha, has⟩ := List.forall_mem_cons.mp hx
    obtain ⟨hb, hbs⟩ := List.forall_mem_cons.mp hy
    rw [eq_of_eqv h2 has hbs]
    rcases (Ext.eqv_iff a b).mp h1 with ⟨sa, sb⟩ | e
    · rw [Ext.eq_zero_of_norm ha sa, Ext.eq_zero_of_norm hb sb]
    · rw [e]
  | [], _ :: _, h, _, _ => nomatch h
  | _ :: _, [], h, _, _ => nomatch h

theorem Dim.wf_mk {s f n : Int} (hs : 0 < s) (hn : 0 < n) : (⟨s, f * s, n * s⟩ : Dim).WF := by
  right
  refine ⟨hs, Int.mul_pos hn hs, ⟨n, Int.mul_comm _ _⟩, ⟨f, Int.mul_comm _ _⟩⟩

theorem Dim.ext_mk {s f n : Int} (hs : 0 < s) (hn : 0 < n) : (⟨s, f * s, n * s⟩ : Dim).ext = ⟨f, f + n⟩ := by
  have hs0 : s ≠ 0 := by omega
  unfold Dim.ext
  rw [if_neg (Int.ne_of_gt (Int.mul_pos hn hs)), ← Int.add_mul, Int.mul_tdiv_cancel _ hs0, Int.mul_tdiv_cancel _ hs0]

theorem Dim.size_of_stride_pos {s f n : Int} (hs : 0 < s) : (⟨s, f * s, n * s⟩ : Dim).size = n := by
  have hs0 : s ≠ 0 := Int.ne_of_gt hs
  unfold Dim.size
  split
  · next h => exact ((Int.mul_eq_zero.mp h).resolve_right hs0).symm
  · exact Int.mul_tdiv_cancel _ hs0

/-- a non-empty well-formed level is `(stride, first·stride, size·stride)` -/
theorem Dim.WF.cases {d : Dim} (h : d.WF) :
    d.nelems = 0 ∨ ∃ f n : Int, 0 < n ∧ 0 < d.stride ∧ d.offset = f * d.stride ∧ d.nelems = n * d.stride
      ∧ d.ext = ⟨f, f + n⟩ ∧ d.size = n := by
  rcases h with h | ⟨hs, hn, ⟨n, hn'⟩, ⟨f, hf⟩⟩
  · exact Or.inl h
  · have hn0 : 0 < n := Int.pos_of_mul_pos_right (hn' ▸ hn) hs
    have hf' : d.offset = f * d.stride := by rw [hf, Int.mul_comm]
    have hn'' : d.nelems = n * d.stride := by rw [hn', Int.mul_comm]
    have e : d = ⟨d.stride, f * d.stride, n * d.stride⟩ := by rw [← hf', ← hn'']
    exact Or.inr ⟨f, n, hn0, hs, hf', hn'', by rw [e]; exact Dim.ext_mk hs hn0, by rw [e]; exact Dim.size_of_stride_pos hs⟩

theorem Dim.ext_of_nelems_zero {d : Dim} (h : d.nelems = 0) : d.ext = ⟨0, 0⟩ := by simp [Dim.ext, h]
theorem Dim.size_of_nelems_zero {d : Dim} (h : d.nelems = 0) : d.size = 0 := by simp [Dim.size, h]

theorem Dim.wf_zero {s o : Int} : (⟨s, o, 0⟩ : Dim).WF := Or.inl rfl

theorem Dim.WF.ext_norm {d : Dim} (h : d.WF) : d.ext.norm = d.ext := by
  rcases h.cases with h0 | ⟨f, n, hn, -, -, -, he, -⟩
  · rw [Dim.ext_of_nelems_zero h0]; rfl
  · rw [he]; exact norm_of_pos hn

theorem Dim.WF.size_eq {d : Dim} (h : d.WF) : d.size = d.ext.size := by
  rcases h.cases with h0 | ⟨f, n, -, -, -, -, he, hsz⟩
  · rw [Dim.ext_of_nelems_zero h0, Dim.size_of_nelems_zero h0]; rfl
  · rw [he, hsz]; exact (Int.sub_eq_iff_eq_add'.mpr rfl).symm

theorem Dim.wf_ext_mk {s f n : Int} (hs : 0 < s) (hn : 0 ≤ n) :
    (⟨s, f * s, n * s⟩ : Dim).WF ∧ (⟨s, f * s, n * s⟩ : Dim).ext = Ext.norm ⟨f, f + n⟩ := by
  by_cases h0 : n = 0
  · subst h0
    exact ⟨Or.inl (Int.zero_mul s), by rw [norm_of_zero]; exact Dim.ext_of_nelems_zero (Int.zero_mul s)⟩
  · have hn : 0 < n := by omega
    exact ⟨Dim.wf_mk hs hn, by rw [norm_of_pos hn]; exact Dim.ext_mk hs hn⟩

/-- a well-formed level cut down to `m` of its indices, by `taked`, `dropped` or `sliced` -/
theorem Dim.WF.resize {d : Dim} (h : d.WF) {m : Int} (hm : 0 ≤ m) (hle : m ≤ d.size) :
    ({ d with nelems := d.stride * m } : Dim).WF ∧
      ({ d with nelems := d.stride * m } : Dim).ext = Ext.norm ⟨d.ext.first, d.ext.first + m⟩ := by
  rcases h.cases with h0 | ⟨f, n, -, hs, hf, -, he, -⟩
  · have : m = 0 := by rw [Dim.size_of_nelems_zero h0] at hle; omega
    subst this
    rw [norm_of_zero]
    exact ⟨Or.inl (Int.mul_zero _), Dim.ext_of_nelems_zero (Int.mul_zero _)⟩
  · have : ({ d with nelems := d.stride * m } : Dim) = ⟨d.stride, f * d.stride, m * d.stride⟩ := by
      rw [← hf, Int.mul_comm]
    rw [this, he]
    exact Dim.wf_ext_mk hs hm

theorem Dim.WF.ext_last {d : Dim} (h : d.WF) : d.ext.last = d.ext.first + d.size := by
  rw [h.size_eq]; unfold Ext.size; omega

theorem Dim.WF.nelems_eq {d : Dim} (h : d.WF) : d.nelems = d.size * d.stride := by
  rcases h.cases with h0 | ⟨f, n, -, -, -, hnn, -, hsz⟩
  · rw [h0, Dim.size_of_nelems_zero h0, Int.zero_mul]
  · rw [hnn, hsz]

theorem Dim.WF.size_nonneg {d : Dim} (h : d.WF) : 0 ≤ d.size := by
  rcases h.cases with h0 | ⟨f, n, hn, -, -, -, -, hsz⟩
  · rw [Dim.size_of_nelems_zero h0]; exact Int.le_refl 0
  · rw [hsz]; exact Int.le_of_lt hn

theorem Dim.WF.ext_le {d : Dim} (h : d.WF) : d.ext.first ≤ d.ext.last :=
  h.ext_last ▸ Int.le_add_of_nonneg_right h.size_nonneg

theorem Dim.WF.stride_pos {d : Dim} (h : d.WF) (hne : d.nelems ≠ 0) : 0 < d.stride :=
  (h.resolve_left hne).1

theorem Dim.WF.size_pos {d : Dim} (h : d.WF) (hne : d.nelems ≠ 0) : 0 < d.size := by
  rcases h.cases with h0 | ⟨f, n, hn, -, -, -, -, hsz⟩
  · exact absurd h0 hne
  · rw [hsz]; exact hn

theorem Dim.WF.offset_eq {d : Dim} (h : d.WF) (hne : d.nelems ≠ 0) : d.offset = d.ext.first * d.stride := by
  rcases h.cases with h0 | ⟨f, n, -, -, hf, -, he, -⟩
  · exact absurd h0 hne
  · rw [he, hf]

theorem Layout.WF.tail {d : Dim} {l : Layout} (h : Layout.WF (d :: l)) : Layout.WF l :=
  fun x hx => h x (List.mem_cons_of_mem _ hx)
theorem Layout.WF.head {d : Dim} {l : Layout} (h : Layout.WF (d :: l)) : d.WF :=
  h d (List.mem_cons_self)
theorem Layout.WF.cons {d : Dim} {l : Layout} (hd : d.WF) (hl : Layout.WF l) : Layout.WF (d :: l) := by
  intro x hx
  rcases List.mem_cons.mp hx with h | h
  · subst h; exact hd
  · exact hl x h

theorem Layout.WF.exts_le {l : Layout} (h : l.WF) : ∀ e ∈ l.exts, e.first ≤ e.last := by
  intro e he
  obtain ⟨d, hd, rfl⟩ := List.mem_map.mp he
  exact (h d hd).ext_le

theorem Layout.WF.exts_norm {l : Layout} (h : l.WF) : ∀ e ∈ l.exts, e.norm = e := by
  intro e he
  obtain ⟨d, hd, rfl⟩ := List.mem_map.mp he
  exact (h d hd).ext_norm

theorem View.exts_nil_iff (v : View) : v.exts = [] ↔ v.lay = [] := List.map_eq_nil_iff

theorem exists_cons_cons {l : Layout} (h : 2 ≤ l.length) : ∃ d0 d1 sub, l = d0 :: d1 :: sub :=
  match l, h with
  | d0 :: d1 :: sub, _ => ⟨d0, d1, sub, rfl⟩

theorem View.exts_cons_cons {v : View} {d0 d1 : Dim} {sub : Layout} (hv : v.lay = d0 :: d1 :: sub) :
    v.exts = d0.ext :: d1.ext :: sub.exts := by simp [View.exts, Layout.exts, hv]

theorem View.exts_cons {v : View} {d : Dim} {sub : Layout} (hv : v.lay = d :: sub) :
    v.exts = d.ext :: sub.exts := by simp [View.exts, Layout.exts, hv]

theorem View.ext_cons {v : View} {d : Dim} {sub : Layout} (hv : v.lay = d :: sub) : v.ext = d.ext := by
  simp [View.ext, hv]

theorem ofExts_length (es : List Ext) : (Layout.ofExts es).length = es.length := by
  induction es with
  | nil => rfl
  | cons e es ih => simp [Layout.ofExts, ih]

theorem inBox_cons {e : Ext} {es : List Ext} {idx : List Int} (h : InBox (e :: es) idx) :
    ∃ t r, idx = t :: r ∧ e.first ≤ t ∧ t < e.last ∧ InBox es r := by
  cases idx with
  | nil => simp [InBox] at h
  | cons t r => exact ⟨t, r, rfl, h.1.1, h.1.2, h.2⟩

theorem inBox_length {es : List Ext} {idx : List Int} (h : InBox es idx) : idx.length = es.length := by
  induction es generalizing idx with
  | nil => cases idx <;> simp_all [InBox]
  | cons e es ih =>
    cases idx with
    | nil => simp [InBox] at h
    | cons t r => simp [ih h.2]

theorem nElems_nonneg {es : List Ext} (h : ∀ e ∈ es, e.first ≤ e.last) : 0 ≤ nElems es := by
  induction es with
  | nil => exact Int.le_of_lt Int.zero_lt_one
  | cons e es ih =>
    exact Int.mul_nonneg (Int.sub_nonneg.mpr (h e List.mem_cons_self))
      (ih fun x hx => h x (List.mem_cons_of_mem _ hx))

theorem pos_of_nElems_ne_zero : ∀ (es : List Ext), (∀ e ∈ es, e.first ≤ e.last) → nElems es ≠ 0 → ∀ e ∈ es, e.first < e.last
  | [], _, _, _, he => nomatch he
  | e :: es, hok, hn, x, hx => by
    obtain ⟨he, hes⟩ := List.forall_mem_cons.mp hok
    have h1 : e.size ≠ 0 := fun hz => hn (by rw [nElems, hz, Int.zero_mul])
    have h2 : nElems es ≠ 0 := fun hz => hn (by rw [nElems, hz, Int.mul_zero])
    rcases List.mem_cons.mp hx with rfl | hx
    · unfold Ext.size at h1
      omega
    · exact pos_of_nElems_ne_zero es hes h2 x hx

theorem rowMajor_bounds {es : List Ext} {idx : List Int} (h : InBox es idx) :
    0 ≤ rowMajor es idx ∧ rowMajor es idx < nElems es := by
  induction es generalizing idx with
  | nil => cases idx <;> simp_all [InBox, rowMajor, nElems]
  | cons e es ih =>
    obtain ⟨t, r, rfl, h1, h2, h3⟩ := inBox_cons h
    obtain ⟨i0, i1⟩ := ih h3
    have := mul_add_lt (f := 0) (Int.sub_nonneg.mpr h1) (Int.sub_lt_sub_right h2 _) i0 (by rwa [Int.zero_add])
    rwa [Int.zero_add] at this

theorem rowMajor_inj {es : List Ext} {a b : List Int} (ha : InBox es a) (hb : InBox es b)
    (h : rowMajor es a = rowMajor es b) : a = b := by
  induction es generalizing a b with
  | nil => cases a <;> cases b <;> simp_all [InBox]
  | cons e es ih =>
    obtain ⟨t, r, rfl, _, _, h3⟩ := inBox_cons ha
    obtain ⟨t', r', rfl, _, _, h3'⟩ := inBox_cons hb
    have r1 := rowMajor_bounds h3
    have r2 := rowMajor_bounds h3'
    obtain ⟨e1, e2⟩ := divmod_unique (f := 0) ⟨r1.1, (Int.zero_add _).symm ▸ r1.2⟩ ⟨r2.1, (Int.zero_add _).symm ▸ r2.2⟩ h
    rw [show t = t' by omega, ih h3 h3' e2]

theorem rank_lt {xs : List Ext} {idx : List Int} (h : InBox xs idx) : (rowMajor xs idx).toNat < (nElems xs).toNat :=
  have ⟨b0, b1⟩ := rowMajor_bounds h
  (Int.toNat_lt_toNat (Int.lt_of_le_of_lt b0 b1)).mpr b1

theorem rank_inj {xs : List Ext} {i j : List Int} (hi : InBox xs i) (hj : InBox xs j)
    (e : (rowMajor xs i).toNat = (rowMajor xs j).toNat) : i = j :=
  rowMajor_inj hi hj (by rw [← Int.toNat_of_nonneg (rowMajor_bounds hi).1, ← Int.toNat_of_nonneg (rowMajor_bounds hj).1, e])

theorem nElems_ne_zero_of_inBox (es : List Ext) (idx : List Int) (h : InBox es idx) : nElems es ≠ 0 := by
  have := rowMajor_bounds h
  omega

theorem nElems_collapse (es : List Ext) : nElems (collapse es) = nElems es := by
  induction es with
  | nil => rfl
  | cons e es ih =>
    simp only [collapse, nElems, ih]
    by_cases h : e.size * nElems es = 0
    · rw [if_pos h, h]
      exact Int.zero_mul _
    · rw [if_neg h]

theorem collapse_of_ne_zero (es : List Ext) (h : nElems es ≠ 0) : collapse es = es := by
  induction es with
  | nil => rfl
  | cons e es ih =>
    have h2 : nElems es ≠ 0 := fun h0 => h (by rw [nElems, h0, Int.mul_zero])
    rw [collapse, if_neg (show ¬ e.size * nElems es = 0 from h), ih h2]

theorem collapse_of_inBox (es : List Ext) (idx : List Int) (h : InBox (collapse es) idx) : collapse es = es :=
  collapse_of_ne_zero es (nElems_collapse es ▸ nElems_ne_zero_of_inBox _ idx h)

theorem inBox_of_collapse {es : List Ext} (idx : List Int) (h : InBox (collapse es) idx) : InBox es idx :=
  collapse_of_inBox es idx h ▸ h

theorem collapse_idem (es : List Ext) : collapse (collapse es) = collapse es := by
  induction es with
  | nil => rfl
  | cons e es ih =>
    simp only [collapse, ih, nElems_collapse]
    by_cases h : e.size * nElems es = 0
    · rw [if_pos h, ite_self]
    · rw [if_neg h, if_neg h]

theorem collapse_length (es : List Ext) : (collapse es).length = es.length := by
  induction es with
  | nil => rfl
  | cons e es ih => exact congrArg (· + 1) ih

theorem collapse_ok {es : List Ext} (h : ∀ e ∈ es, e.first ≤ e.last) : ∀ e ∈ collapse es, e.first ≤ e.last := by
  induction es with
  | nil => exact fun _ he => nomatch he
  | cons e es ih =>
    obtain ⟨he, hes⟩ := List.forall_mem_cons.mp h
    refine List.forall_mem_cons.mpr ⟨?_, ih hes⟩
    split
    · exact Int.le_refl 0
    · exact he

theorem collapse_norm (es : List Ext) : ∀ e ∈ collapse es, e.norm = e := by
  induction es with
  | nil => exact fun _ he => nomatch he
  | cons e es ih =>
    refine List.forall_mem_cons.mpr ⟨?_, ih⟩
    split
    · rfl
    · next h0 => exact if_neg fun hs => h0 (by rw [show e.size = 0 from hs, Int.zero_mul])

/-- `collapse` and `Ext.norm` empty an extension in the same case -/
theorem norm_eq_collapse_head {e : Ext} {n : Int} (hn : n ≠ 0) :
    Ext.norm ⟨e.first, e.first + e.size⟩ = if e.size * n = 0 then ⟨0, 0⟩ else e := by
  rw [show e.first + e.size = e.last by unfold Ext.size; omega]
  show (if e.size = 0 then _ else e) = _
  by_cases hs : e.size = 0
  · rw [if_pos hs, if_pos (by rw [hs, Int.zero_mul])]
  · rw [if_neg hs, if_neg (Int.mul_ne_zero hs hn)]

/-! the default extensions `extensions_type{}`: every one `[0,0)` -/

theorem replicate_zero_ok (D : Nat) : ∀ e ∈ List.replicate D (⟨0, 0⟩ : Ext), e.first ≤ e.last := by
  intro e he
  rw [(List.mem_replicate.mp he).2]
  exact Int.le_refl 0

theorem nElems_replicate_zero {D : Nat} (hD : D ≠ 0) : nElems (List.replicate D ⟨0, 0⟩) = 0 := by
  cases D with
  | zero => exact absurd rfl hD
  | succ D => exact Int.zero_mul _

theorem collapse_replicate_zero (D : Nat) : collapse (List.replicate D ⟨0, 0⟩) = List.replicate D ⟨0, 0⟩ := by
  induction D with
  | zero => rfl
  | succ D ih => rw [List.replicate_succ, collapse, ih, ite_self]

end Multi
