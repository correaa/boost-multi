/-
  C17 — Serialization round-trips every array exactly; a view saves exactly its own elements in canonical order and
  loads them back into a view of equal extents without touching other elements.

  The model is MultiModel/Serial.lean: one `serialize` function per C++ `serialize` member, run on an archive that is
  either saving or loading, generic in the element codec.  The element codec loads *into an existing object*; its law is
  `load prior (enc x ++ rest) = (y, rest)` with `y == x`, for every previous state `prior`.
-/
import MultiProofs.SerArchive
import MultiProofs.SerWalk
import MultiProofs.SerInj

namespace Multi
namespace C17
open Archive

variable {τ α : Type}

/-- what `array::serialize` does on a saving archive: appends the reported extensions and then the elements of the block in
    storage order; the array is unchanged -/
theorem save_tokens (c : Codec τ α) (ci : ICodec τ) (a : Arr α) (out : List τ) :
    a.serialize c ci (saving out) =
      some (saving (out ++ (encExts ci a.lay.exts ++ encItems c (a.data.take a.lay.numElements.toNat))), a) := by
  simp only [Arr.serialize, exts_saving, bind, Option.bind, Arr.resizeStep, neqv_self, Bool.false_eq_true, if_false,
    Arr.flat, items_saving, pure, List.take_append_drop, List.append_assoc]

theorem save_eq (c : Codec τ α) (ci : ICodec τ) (a : Arr α) :
    a.save c ci = encExts ci a.lay.exts ++ encItems c (a.data.take a.lay.numElements.toNat) := by
  simp [Arr.save, save_tokens]

/-- **C17, arrays.**  Saving any array `a` and loading the archive into an array `b` of the same type — whatever `b`'s
    extents and elements were — consumes exactly the saved tokens and leaves `b` equal to `a`: same extensions as the
    library reports them, elementwise equal elements; `b` again satisfies the class invariant.
    `D` ranges over all naturals (0 included), the extents over everything the constructor accepts (zero sizes,
    non-zero index bases), `b` over every state satisfying the class invariant, the element type over every lawful codec. -/
theorem roundtrip (c : Codec τ α) (ci : ICodec τ) (hc : c.Lawful) (hci : ci.Lawful) (D : Nat)
    (a b : Arr α) (ha : a.Inv D c.ok) (hb : b.Inv D c.ok) (rest : List τ) :
    ∃ b', b.load c ci (a.save c ci ++ rest) = some (b', rest) ∧ Arr.Eqv c.eqv b' a ∧ b'.Inv D c.ok := by
  obtain ⟨e1, inv1⟩ := resizeStep_spec hc.dflt_ok ha hb
  have n1 := inv1.numElements_eq ha e1
  obtain ⟨_, _, lA, _, _⟩ := ha.exts_spec
  obtain ⟨_, _, lB, _, _⟩ := hb.exts_spec
  obtain ⟨_, dA, okA⟩ := ha
  obtain ⟨form1, d1, ok1⟩ := inv1
  generalize hb1 : b.resizeStep c.dflt a.lay.exts = b1 at e1 n1 form1 d1 ok1
  obtain ⟨ys, hys, hrel, hok⟩ := items_loading c hc a.data b1.data (by rw [d1, dA, n1]) okA ok1 rest
  refine ⟨{ b1 with data := ys }, ?_, ⟨e1, hrel⟩, form1, (allRel_length hrel).trans (by rw [dA, n1]), hok⟩
  simp only [Arr.load, Arr.serialize, save_eq, ← dA, List.take_length, List.append_assoc, bind, Option.bind]
  rw [exts_loading ci hci a.lay.exts b.lay.exts (lB.trans lA.symm)]
  simp only [hb1, Arr.flat, ← d1, List.take_length, List.drop_length, hys, pure, List.append_nil, bind, Option.bind]

/-- `multi::array<T, D>` is a lawful element type whenever `T` is: arrays of arrays (of arrays …) round-trip. -/
theorem codec_lawful (c : Codec τ α) (ci : ICodec τ) (hc : c.Lawful) (hci : ci.Lawful) (D : Nat) :
    (Arr.codec D c ci).Lawful where
  dflt_ok := Arr.dflt_inv D hc.dflt_ok
  law := fun prior x rest hp hx => roundtrip c ci hc hci D x prior hx hp rest

/-- **C17, views (saving).**  A view (of any dimensionality, through either `serialize` overload) saves exactly its own
    elements `v[idx]`, `idx` running over the view's index box in canonical order — no other token — and saving does not
    change the memory. -/
theorem view_saves_canonical (c : Codec τ α) (k : ViewKind) (v : View) (hwf : v.lay.WF) (m : Mem α) (out : List τ) :
    v.serialize c k (saving out) m =
      some (saving (out ++ encItems c ((boxIndices v.exts).map fun idx => m (v.addr idx))), m) ∧
    v.save c k m = some (encItems c ((boxIndices v.exts).map fun idx => m (v.addr idx))) := by
  have h1 : ∀ out, v.serialize c k (saving out) m = some (saving (out ++ encItems c ((canonAddrs v).map m)), m) := fun out => by
    simp only [View.serialize, serialAddrs_canonical v hwf k, bind, Option.bind, serializeAt_saving]
  rw [map_canonAddrs] at h1
  exact ⟨h1 out, by simp only [View.save, h1, List.nil_append]⟩

/-- loading as many values as a well-formed view has elements (`serializeAt_loading` through `serialAddrs_canonical`):
    the frame part needs no distinctness, the values part does -/
theorem view_load (c : Codec τ α) (hc : c.Lawful) (k : ViewKind) (v : View) (hwf : v.lay.WF) (m : Mem α)
    (xs : List α) (hlen : xs.length = (boxIndices v.exts).length)
    (hm : ∀ p ∈ canonAddrs v, c.ok (m p)) (hx : ∀ x ∈ xs, c.ok x) (rest : List τ) :
    ∃ m', v.load c k m (encItems c xs ++ rest) = some (m', rest) ∧ (∀ p, p ∉ canonAddrs v → m' p = m p) ∧
      ((canonAddrs v).Nodup → AllRel c.eqv ((boxIndices v.exts).map fun idx => m' (v.addr idx)) xs) := by
  have hl : (canonAddrs v).length = xs.length := (canonAddrs_length v).trans hlen.symm
  obtain ⟨ys, h1, h2⟩ := serializeAt_loading c hc (canonAddrs v) xs m hl hm hx rest
  refine ⟨storeAt m (canonAddrs v) ys, ?_, fun p => storeAt_frame _ ys m p, fun hnd => ?_⟩
  · simp only [View.load, View.serialize, serialAddrs_canonical v hwf k, bind, Option.bind, h1]
  · have := storeAt_read _ ys m (hl.trans (allRel_length h2).symm) hnd
    rw [map_canonAddrs] at this
    rw [← this] at h2
    exact h2

/-- **C17, views (loading).**  Loading `N = num_elements` values into a view whose elements are pairwise distinct
    storage locations consumes exactly their tokens, stores the k-th value in the k-th element (canonical order), and
    leaves every address that is not an element of the view unchanged. -/
theorem view_load_exact (c : Codec τ α) (hc : c.Lawful) (k : ViewKind) (v : View) (hwf : v.lay.WF) (m : Mem α)
    (xs : List α) (hlen : xs.length = (boxIndices v.exts).length) (hinj : (canonAddrs v).Nodup)
    (hm : ∀ p ∈ canonAddrs v, c.ok (m p)) (hx : ∀ x ∈ xs, c.ok x) (rest : List τ) :
    ∃ m', v.load c k m (encItems c xs ++ rest) = some (m', rest) ∧
      (∀ p, p ∉ canonAddrs v → m' p = m p) ∧
      AllRel c.eqv ((boxIndices v.exts).map fun idx => m' (v.addr idx)) xs := by
  obtain ⟨m', h1, h2, h3⟩ := view_load c hc k v hwf m xs hlen hm hx rest
  exact ⟨m', h1, h2, h3 hinj⟩

/-- **C17, views (loading), frame part at full strength**: for *every* well-formed view — elements distinct or not —
    loading as many values as the view has elements succeeds, consumes exactly their tokens and leaves every address
    that is not an element of the view unchanged. -/
theorem view_load_touches_only_view (c : Codec τ α) (hc : c.Lawful) (k : ViewKind) (v : View) (hwf : v.lay.WF) (m : Mem α)
    (xs : List α) (hlen : xs.length = (boxIndices v.exts).length)
    (hm : ∀ p ∈ canonAddrs v, c.ok (m p)) (hx : ∀ x ∈ xs, c.ok x) (rest : List τ) :
    ∃ m', v.load c k m (encItems c xs ++ rest) = some (m', rest) ∧ ∀ p, p ∉ canonAddrs v → m' p = m p := by
  obtain ⟨m', h1, h2, _⟩ := view_load c hc k v hwf m xs hlen hm hx rest
  exact ⟨m', h1, h2⟩

theorem allRel_trans_eq {r : α → α → Prop} : ∀ {xs ys : List α}, AllRel r xs ys → ∀ {zs}, ys = zs → AllRel r xs zs
  | _, _, h, _, rfl => h

/-- Corollary: what a view `w` saved, loaded into a view `v` of equal extents, makes `v[idx] == w[idx]` at every index
    tuple, and touches nothing but the elements of `v`. -/
theorem view_roundtrip (c : Codec τ α) (hc : c.Lawful) (kw kv : ViewKind) (w v : View) (hw : w.lay.WF) (hv : v.lay.WF)
    (hext : v.exts = w.exts) (mw m : Mem α) (hinj : (canonAddrs v).Nodup)
    (hm : ∀ p ∈ canonAddrs v, c.ok (m p)) (hmw : ∀ p ∈ canonAddrs w, c.ok (mw p)) (rest : List τ) :
    ∃ toks m', w.save c kw mw = some toks ∧ v.load c kv m (toks ++ rest) = some (m', rest) ∧
      (∀ p, p ∉ canonAddrs v → m' p = m p) ∧
      ∀ idx ∈ boxIndices v.exts, c.eqv (m' (v.addr idx)) (mw (w.addr idx)) := by
  obtain ⟨_, hsave⟩ := view_saves_canonical c kw w hw mw []
  have hx : ∀ x ∈ (boxIndices w.exts).map (fun idx => mw (w.addr idx)), c.ok x :=
    List.forall_mem_map.mpr fun _ hidx => hmw _ (List.mem_map_of_mem hidx)
  obtain ⟨m', h1, h2, h3⟩ := view_load_exact c hc kv v hv m _ (by rw [List.length_map, hext]) hinj hm hx rest
  refine ⟨_, m', hsave, h1, h2, ?_⟩
  rw [← hext] at h3
  exact (allRel_map c.eqv _ _ _).mp h3

/-- `view_load_exact` for every view obtained from an array by any finite sequence of in-domain view operations
    (C01's `Reach`): well-formedness and pairwise distinct element locations follow from `C01.reachable_denotes` and
    `reachable_injective`, so no hypothesis about the view remains. -/
theorem reachable_view_load_exact (c : Codec τ α) (hc : c.Lawful) (k : ViewKind)
    (base : Int) (es : List Ext) (hes : ∀ e ∈ es, e.first ≤ e.last) (v : View) (den : Den)
    (hreach : Reach ⟨base, Layout.ofExts es⟩ v den) (m : Mem α)
    (xs : List α) (hlen : xs.length = (boxIndices v.exts).length)
    (hm : ∀ p ∈ canonAddrs v, c.ok (m p)) (hx : ∀ x ∈ xs, c.ok x) (rest : List τ) :
    ∃ m', v.load c k m (encItems c xs ++ rest) = some (m', rest) ∧
      (∀ p, p ∉ canonAddrs v → m' p = m p) ∧
      AllRel c.eqv ((boxIndices v.exts).map fun idx => m' (v.addr idx)) xs :=
  view_load_exact c hc k v (reachable_wf base es hes v den hreach) m xs hlen
    (reachable_canonAddrs_nodup base es hes v den hreach) hm hx rest

/-- `view_roundtrip` for reachable views: `w` (any well-formed view) saved, loaded into a reachable view `v` of equal
    extents: `v[idx] == w[idx]` everywhere, nothing else touched. -/
theorem reachable_view_roundtrip (c : Codec τ α) (hc : c.Lawful) (kw kv : ViewKind)
    (bw : Int) (esw : List Ext) (hesw : ∀ e ∈ esw, e.first ≤ e.last) (w : View) (denw : Den)
    (hrw : Reach ⟨bw, Layout.ofExts esw⟩ w denw)
    (bv : Int) (esv : List Ext) (hesv : ∀ e ∈ esv, e.first ≤ e.last) (v : View) (denv : Den)
    (hrv : Reach ⟨bv, Layout.ofExts esv⟩ v denv)
    (hext : v.exts = w.exts) (mw m : Mem α)
    (hm : ∀ p ∈ canonAddrs v, c.ok (m p)) (hmw : ∀ p ∈ canonAddrs w, c.ok (mw p)) (rest : List τ) :
    ∃ toks m', w.save c kw mw = some toks ∧ v.load c kv m (toks ++ rest) = some (m', rest) ∧
      (∀ p, p ∉ canonAddrs v → m' p = m p) ∧
      ∀ idx ∈ boxIndices v.exts, c.eqv (m' (v.addr idx)) (mw (w.addr idx)) :=
  view_roundtrip c hc kw kv w v (reachable_wf bw esw hesw w denw hrw) (reachable_wf bv esv hesv v denv hrv) hext mw m
    (reachable_canonAddrs_nodup bv esv hesv v denv hrv) hm hmw rest

/-! non-vacuity: the codecs of a text archive are lawful -/

theorem icodec_lawful : Tok.icodec.Lawful := fun _ _ => rfl

theorem intCodec_lawful : Tok.intCodec.Lawful where
  dflt_ok := trivial
  law := fun _ x _ _ _ => ⟨x, rfl, rfl, trivial⟩

theorem strCodec_lawful : Tok.strCodec.Lawful where
  dflt_ok := trivial
  law := fun _ x rest _ _ => by
    refine ⟨x, ?_, rfl, trivial⟩
    by_cases h : x.length = 0
    · have : x = "" := String.length_eq_zero_iff.mp h
      subst this; simp [Tok.strCodec]
    · have h' : x ≠ "" := fun e => h (String.length_eq_zero_iff.mpr e)
      simp [Tok.strCodec, h, h']

/-- a 2-D array of 1-D arrays of strings round-trips -/
example : (Arr.codec 2 (Arr.codec 1 Tok.strCodec Tok.icodec) Tok.icodec).Lawful :=
  codec_lawful _ _ (codec_lawful _ _ strCodec_lawful icodec_lawful 1) icodec_lawful 2

/-- a concrete 2×3 array and a 1×0 loading array satisfy the hypotheses of `roundtrip` -/
example : (Arr.ofExts [⟨0, 2⟩, ⟨0, 3⟩] [10, 11, 12, 13, 14, 15]).Inv 2 Tok.intCodec.ok ∧
    (Arr.ofExts [⟨5, 6⟩, ⟨1, 1⟩] ([] : List Int)).Inv 2 Tok.intCodec.ok := by
  refine ⟨⟨⟨_, rfl, by decide, rfl⟩, by decide, fun _ _ => trivial⟩, ⟨⟨_, rfl, by decide, rfl⟩, by decide, fun _ _ => trivial⟩⟩

/-- the token list of the protocol example (`0 2 0 3 10 11 12 13 14 15`) -/
example : (Arr.ofExts [⟨0, 2⟩, ⟨0, 3⟩] [10, 11, 12, 13, 14, 15]).save Tok.intCodec Tok.icodec =
    [0, 2, 0, 3, 10, 11, 12, 13, 14, 15].map Tok.int := by decide

end C17
end Multi
