/-
  MultiProofs.Call — the call syntax `A(i, {a,b}, ALL, ...)` as coded (`paren_aux_`: slice, rotate, recurse,
  unrotate) selects exactly what the documentation says.
-/
import MultiProofs.Ops2

namespace Multi

theorem argsInDomain_length {as : List Arg} {es : List Ext} (h : argsInDomain as es) : as.length ≤ es.length := by
  induction as generalizing es with
  | nil => simp
  | cons a as ih =>
    cases es with
    | nil => simp [argsInDomain] at h
    | cons e es => simp [argsInDomain] at h; have := ih h.2; simp; omega

theorem argsInDomain_append {as : List Arg} {es : List Ext} (x : List Ext) (h : argsInDomain as es) :
    argsInDomain as (es ++ x) := by
  induction as generalizing es with
  | nil => simp [argsInDomain]
  | cons a as ih =>
    cases es with
    | nil => simp [argsInDomain] at h
    | cons e es => simp [argsInDomain] at h ⊢; exact ⟨h.1, ih h.2⟩

theorem callShape_append {as : List Arg} {es : List Ext} (x : List Ext) (h : argsInDomain as es) :
    callShape as (es ++ x) = callShape as es ++ x := by
  induction as generalizing es with
  | nil => simp [callShape]
  | cons a as ih =>
    cases es with
    | nil => simp [argsInDomain] at h
    | cons e es =>
      simp [argsInDomain] at h
      cases a <;> simp [callShape, ih h.2]

theorem callMap_append {as : List Arg} {es : List Ext} (x : List Ext) (r : List Int) (t : Int)
    (h : argsInDomain as es) (hr : InBox (callShape as es) r) :
    callMap as (es ++ x) (r ++ [t]) = callMap as es r ++ [t] := by
  induction as generalizing es r with
  | nil => rfl
  | cons a as ih =>
    cases es with
    | nil => exact h.elim
    | cons e es =>
      cases a with
      | idx i => exact congrArg (i :: ·) (ih r h.2 hr)
      | rng a b =>
        obtain ⟨t', r', rfl, -, -, h3⟩ := inBox_cons hr
        exact congrArg ((a + (t' - e.first)) :: ·) (ih r' h.2 h3)
      | all =>
        obtain ⟨t', r', rfl, -, -, h3⟩ := inBox_cons hr
        exact congrArg (t' :: ·) (ih r' h.2 h3)

/-- a range argument `{a, b}` on the leading dimension, as the code does it: slice, rotate, recurse, unrotate -/
theorem paren_rng_step (v : View) (a b : Int) (as : List Arg) (e : Ext) (es : List Ext)
    (hwf : v.lay.WF) (hex : v.exts = e :: es) (hne : v.lay ≠ [])
    (hab : e.first ≤ a ∧ a ≤ b ∧ b ≤ e.last) (has : argsInDomain as es)
    (ih : ∀ w : View, w.lay.WF → argsInDomain as w.exts → Refines w (w.paren as) (callShape as w.exts) (callMap as w.exts)) :
    Refines v ((v.range a b).rotated.paren as).unrotated
      (Ext.norm ⟨e.first, e.first + (b - a)⟩ :: callShape as es)
      (fun idx => match idx with | t :: r => (a + (t - e.first)) :: callMap as es r | [] => []) := by
  have hve : v.ext = e := by
    obtain ⟨d, sub, hv⟩ := List.exists_cons_of_ne_nil hne
    rw [View.exts_cons hv] at hex
    rw [View.ext_cons hv]
    exact (List.cons.inj hex).1
  have r1 := range_refines v a b hwf ⟨hne, hve ▸ hab.1, hab.2.1, hve ▸ hab.2.2⟩
  rw [hex] at r1
  have r2 := rotated_refines (v.range a b) r1.1
  rw [r1.2.1] at r2
  have hs2 : (v.range a b).rotated.exts = es ++ [Ext.norm ⟨e.first, e.first + (b - a)⟩] := r2.2.1
  have r3 := ih (v.range a b).rotated r2.1 (hs2 ▸ argsInDomain_append _ has)
  rw [hs2, callShape_append _ has] at r3
  have r4 := unrotated_refines ((v.range a b).rotated.paren as) r3.1
  rw [r3.2.1, specShape_unrotated_snoc] at r4
  refine ((r1.trans r2).trans (r3.trans r4)).congr rfl (fun idx hidx => ?_)
  obtain ⟨t, r, rfl, -, -, h3⟩ := inBox_cons hidx
  show Op.specMap (.range a b) _ (Op.rotated.specMap _ (callMap as _ (r ++ [t]))) = _
  rw [callMap_append _ r t has h3, specMap_rotated_snoc]
  rfl

theorem paren_refines (as : List Arg) : ∀ v : View, v.lay.WF → argsInDomain as v.exts →
    Refines v (v.paren as) (callShape as v.exts) (callMap as v.exts) := by
  induction as with
  | nil => exact fun v hwf _ => (Refines.id v hwf).congr rfl (fun _ _ => rfl)
  | cons a as ih =>
    intro v hwf hd
    cases hv : v.lay with
    | nil => simp [View.exts, hv, Layout.exts, argsInDomain] at hd
    | cons d sub =>
      have hne : v.lay ≠ [] := hv ▸ List.cons_ne_nil _ _
      have hex := View.exts_cons hv
      have hve := View.ext_cons hv
      rw [hex] at hd ⊢
      cases a with
      | idx i =>
        have r1 := index_refines v i hwf ⟨hne, hve ▸ hd.1.1, hve ▸ hd.1.2⟩
        rw [hex] at r1
        have r2 := ih (v.index i) r1.1 (r1.2.1 ▸ hd.2)
        rw [r1.2.1] at r2
        exact (r1.trans r2).congr rfl (fun _ _ => rfl)
      | rng a b =>
        refine (paren_rng_step v a b as d.ext (Layout.exts sub) hwf hex hne hd.1 hd.2 ih).congr rfl
          (fun idx hidx => ?_)
        obtain ⟨t, r, rfl, -⟩ := inBox_cons hidx
        rfl
      | all =>
        -- ALL: intersection of the extension with [min, max) is the extension itself
        have hdwf : d.WF := (hv ▸ hwf).head
        have hfl : d.ext.first ≤ d.ext.last := hdwf.ext_le
        have hint : v.ext.inter ⟨v.ext.first, v.ext.last⟩ = d.ext := by
          rw [hve, Ext.inter]
          simp only [Int.max_self, Int.min_self, Int.min_eq_left hfl]
        have hnorm : Ext.norm ⟨d.ext.first, d.ext.first + (d.ext.last - d.ext.first)⟩ = d.ext := by
          rw [show d.ext.first + (d.ext.last - d.ext.first) = d.ext.last by omega]
          exact hdwf.ext_norm
        have := paren_rng_step v d.ext.first d.ext.last as d.ext (Layout.exts sub) hwf hex hne
          ⟨Int.le_refl _, hfl, Int.le_refl _⟩ hd.2 ih
        simp only [View.paren, hint]
        refine this.congr (congrArg (· :: _) hnorm) (fun idx hidx => ?_)
        obtain ⟨t, r, rfl, -⟩ := inBox_cons hidx
        exact congrArg (· :: _) (by omega)

end Multi
