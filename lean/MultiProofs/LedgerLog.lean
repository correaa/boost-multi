/-
  MultiProofs.LedgerLog — which programs record which kinds of events.  A cell is written by a construction (`ctor`
  event) or an assignment (`assign` event) and by nothing else; storage is obtained by `allocate` (`alloc` event) and by
  nothing else.  A program built only from micro-steps that do not emit events of kind `P` leaves the number of `P`-events
  of the ledger unchanged, whatever its outcome; C08.trivial_no_write and C09.no_alloc_when_not_needed are statements of
  this form.
-/
import MultiProofs.LedgerOps

namespace Multi
namespace Ledger

def Event.isCtor : Event → Bool
  | .ctor .. => true
  | _ => false

def Event.isAlloc : Event → Bool
  | .alloc .. => true
  | _ => false

def evCount (P : Event → Bool) (l : List Event) : Nat := l.countP P

def Res.state {α : Type} : Res α → St
  | .ok _ s => s
  | .threw s => s
  | .term s => s
  | .ub s => s

/-- the program records no event of kind `P`, whatever happens -/
def NoEv {α : Type} (P : Event → Bool) (m : M α) : Prop := ∀ s, evCount P (m s).state.log = evCount P s.log

/-- the program performs no element construction -/
abbrev NoCtor {α : Type} (m : M α) : Prop := NoEv Event.isCtor m
/-- the program performs no allocation -/
abbrev NoAlloc {α : Type} (m : M α) : Prop := NoEv Event.isAlloc m

theorem evCount_append (P : Event → Bool) (l : List Event) (e : Event) :
    evCount P (l ++ [e]) = evCount P l + (if P e then 1 else 0) := by
  simp [evCount, List.countP_append, List.countP_cons]

theorem evCount_quiet {P : Event → Bool} {e : Event} (h : P e = false) (l : List Event) :
    evCount P (l ++ [e]) = evCount P l := by
  rw [evCount_append, h]; rfl

/-- `P` counts none of the events a destruction / deallocation / assignment emits -/
structure Quiet (P : Event → Bool) : Prop where
  assign : ∀ b o, P (.assign b o) = false
  dtor : ∀ b o, P (.dtor b o) = false
  dealloc : ∀ b n a, P (.dealloc b n a) = false

theorem quiet_ctor : Quiet Event.isCtor := ⟨fun _ _ => rfl, fun _ _ => rfl, fun _ _ _ => rfl⟩
theorem quiet_alloc : Quiet Event.isAlloc := ⟨fun _ _ => rfl, fun _ _ => rfl, fun _ _ _ => rfl⟩

namespace NoEv

variable {α β : Type} {P : Event → Bool}

theorem pure (a : α) : NoEv P (Pure.pure a : M α) := fun _ => rfl

theorem bind {m : M α} {f : α → M β} (hm : NoEv P m) (hf : ∀ a, NoEv P (f a)) : NoEv P (m >>= f) := by
  intro s
  show evCount P (M.bind m f s).state.log = _
  unfold M.bind
  have h1 := hm s
  revert h1
  cases m s with
  | ok a s1 => exact fun h1 => (hf a s1).trans h1
  | threw s1 => exact id
  | term s1 => exact id
  | ub s1 => exact id

theorem tryCatch {m h : M α} (hm : NoEv P m) (hh : NoEv P h) : NoEv P (Ledger.tryCatch m h) := by
  intro s
  unfold Ledger.tryCatch
  have h1 := hm s
  revert h1
  cases m s with
  | threw s1 => exact fun h1 => (hh s1).trans h1
  | ok a s1 => exact id
  | term s1 => exact id
  | ub s1 => exact id

theorem noexcept {m : M α} (hm : NoEv P m) : NoEv P (Ledger.noexcept m) := by
  intro s
  unfold Ledger.noexcept
  have h1 := hm s
  revert h1
  cases m s <;> exact id

theorem ite {c : Prop} [Decidable c] {m1 m2 : M α} (h1 : NoEv P m1) (h2 : NoEv P m2) : NoEv P (if c then m1 else m2) := by
  split <;> assumption

theorem get : NoEv P Ledger.get := fun _ => rfl
theorem rethrow : NoEv P (Ledger.rethrow : M α) := fun _ => rfl
theorem ub : NoEv P (Ledger.ub : M α) := fun _ => rfl
theorem setSlot (i : Nat) (o : Option Arr) : NoEv P (Ledger.setSlot i o) := fun _ => rfl

/-- the opening of an operation: read the pool, undefined if slot `i` holds no array -/
theorem withArr {f : Arr → M α} (i : Nat) (h : ∀ x, NoEv P (f x)) :
    NoEv P (do let s ← Ledger.get; match getArr s i with | none => Ledger.ub | some x => f x) :=
  bind get fun s =>
    match getArr s i with
    | none => ub
    | some x => h x

theorem withArr2 {f : Arr → Arr → M α} (i j : Nat) (h : ∀ x y, NoEv P (f x y)) :
    NoEv P (do let s ← Ledger.get; match getArr s i, getArr s j with | some x, some y => f x y | _, _ => Ledger.ub) :=
  bind get fun s =>
    match getArr s i, getArr s j with
    | none, _ => ub
    | some _, none => ub
    | some x, some y => h x y

theorem tick (k : Step) : NoEv P (Ledger.tick k) := by
  intro s
  unfold Ledger.tick
  cases s.fuel with
  | none => rfl
  | some n => cases n <;> rfl

/-- the shape of a fallible micro-step: when the tick succeeds the state is updated by `g`, which records no event of kind `P` -/
theorem step {r : Res Unit} {g : St → St} {a : St → α} {n : Nat} (h : evCount P r.state.log = n)
    (hg : ∀ s1, evCount P (g s1).log = evCount P s1.log) :
    evCount P (match r with
      | .ok _ s1 => Res.ok (a s1) (g s1)
      | .threw s1 => .threw s1
      | .term s1 => .term s1
      | .ub s1 => .ub s1).state.log = n := by
  cases r with
  | ok u s1 => exact (hg s1).trans h
  | threw s1 => exact h
  | term s1 => exact h
  | ub s1 => exact h

/-- the shape of a guarded micro-step on block `b`: undefined unless the block exists and the guard is off -/
theorem guarded {b : Nat} {guard : Block → Bool} {f : Block → Res α} {s : St}
    (h : ∀ blk, evCount P (f blk).state.log = evCount P s.log) :
    evCount P (match s.blocks[b]? with
      | none => Res.ub s
      | some blk => if guard blk = true then Res.ub s else f blk).state.log = evCount P s.log := by
  cases s.blocks[b]? with
  | none => rfl
  | some blk =>
    simp only
    split
    · rfl
    · exact h blk

theorem allocate (hP : ∀ b n a, P (.alloc b n a) = false) (a : AllocId) (n : Nat) : NoEv P (Ledger.allocate a n) := by
  intro s
  unfold Ledger.allocate
  split
  · rfl
  · refine step (tick Step.alloc s) (fun s1 => ?_)
    exact evCount_quiet (hP _ _ _) s1.log

theorem readCells (c : Cfg) (base : Option Nat) (n : Nat) : NoEv P (Ledger.readCells c base n) := by
  intro s
  unfold Ledger.readCells
  split
  · rfl
  · cases base with
    | none => rfl
    | some b => exact guarded fun _ => rfl

theorem assignCell (hq : Quiet P) (c : Cfg) (b off : Nat) : NoEv P (Ledger.assignCell c b off) := by
  intro s
  unfold Ledger.assignCell
  refine guarded fun blk => ?_
  have ht : evCount P (if c.elemThrows = true then Ledger.tick Step.assign s else Res.ok () s).state.log = evCount P s.log := by
    split
    · exact tick Step.assign s
    · rfl
  exact step ht fun s1 => evCount_quiet (hq.assign b off) s1.log

theorem assignCells (hq : Quiet P) (c : Cfg) (b : Nat) : ∀ offs, NoEv P (Ledger.assignCells c b offs)
  | [] => pure ()
  | o :: rest => bind (assignCell hq c b o) (fun _ => assignCells hq c b rest)

theorem assignAll (hq : Quiet P) (c : Cfg) (base : Option Nat) (offs : List Nat) : NoEv P (Ledger.assignAll c base offs) := by
  unfold Ledger.assignAll
  cases offs with
  | nil => exact pure ()
  | cons o r =>
    cases base with
    | none => exact ub
    | some b => exact assignCells hq c b (o :: r)

theorem dtorCell (hq : Quiet P) (b off : Nat) : NoEv P (Ledger.dtorCell b off) := by
  intro s
  unfold Ledger.dtorCell
  exact guarded fun _ => evCount_quiet (hq.dtor b off) s.log

theorem destroyBack (hq : Quiet P) (b : Nat) : ∀ k, NoEv P (Ledger.destroyBack b k)
  | 0 => pure ()
  | k + 1 => bind (dtorCell hq b k) (fun _ => destroyBack hq b k)

theorem destroyAll (hq : Quiet P) (c : Cfg) (base : Option Nat) (n : Nat) : NoEv P (Ledger.destroyAll c base n) := by
  unfold Ledger.destroyAll
  split
  · exact pure ()
  · split
    · exact pure ()
    · cases base with
      | none => exact ub
      | some b => exact destroyBack hq b n

theorem deallocate (hq : Quiet P) (c : Cfg) (a : AllocId) (base : Option Nat) (n : Nat) : NoEv P (Ledger.deallocate c a base n) := by
  intro s
  unfold Ledger.deallocate
  split
  · rfl
  · cases base with
    | none => rfl
    | some b => exact guarded fun _ => evCount_quiet (hq.dealloc b n a) s.log

theorem clearArr (hq : Quiet P) (c : Cfg) (i : Nat) (x : Arr) : NoEv P (Ledger.clearArr c i x) := by
  unfold Ledger.clearArr
  exact bind (destroyAll hq c _ _) (fun _ => bind (deallocate hq c _ _ _) (fun _ => bind (setSlot i _) (fun _ => pure _)))

theorem dtorArr (hq : Quiet P) (c : Cfg) (i : Nat) (x : Arr) : NoEv P (Ledger.dtorArr c i x) := by
  unfold Ledger.dtorArr
  exact bind (destroyAll hq c _ _) (fun _ => bind (deallocate hq c _ _ _) (fun _ => setSlot i _))

/-- `buildSafe` / `build` without the construction stage (trivially default-constructible, no fill value) -/
theorem buildSafe_false (hP : ∀ b n a, P (.alloc b n a) = false) (c : Cfg) (a : AllocId) (n : Nat) :
    NoEv P (Ledger.buildSafe c a n false) := by
  unfold Ledger.buildSafe
  exact bind (allocate hP a n) (fun p => by simp only [Bool.false_eq_true, if_false]; exact bind (pure ()) (fun _ => pure p))

theorem build_false (hP : ∀ b n a, P (.alloc b n a) = false) (c : Cfg) (a : AllocId) (n rowLen : Nat) :
    NoEv P (Ledger.build c a n false rowLen) := by
  unfold Ledger.build
  -- without the construction stage the code before and after `fx6` is the same program
  split <;> exact buildSafe_false hP c a n

end NoEv

theorem isCtor_alloc : ∀ b n a, Event.isCtor (.alloc b n a) = false := fun _ _ _ => rfl

end Ledger
end Multi
