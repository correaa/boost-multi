/-
  MultiProofs.GenTieStore — the hand-written model of assignment, swap and comparison (`MultiModel/Store.lean`) EQUALS the
  definitions regenerated from the current array_ref.hpp by tools/gen_store.py (`MultiModel/Gen/StoreGen.lean`).
  Proof obligations of C05 and C07 (and C03, C11 through them): a fast path added to one of these operators changes the
  generated text (or leaves the translator's vocabulary) and the corresponding theorem stops checking.
-/
import MultiModel.Gen.StoreGen
import MultiProofs.TieLemmas

namespace Multi.GenTieStore
open Multi Multi.Gen

variable {α : Type}

/-! ### `elements_range_t` -/

theorem ER_assign_tie (dst src : ElemRange) (m : Mem α) : ER_assign dst src m = ElemRange.assign dst src m := by
  rw [ER_assign, ite_int_beq, ite_not_bool]
  rfl

/-- the non-template `operator=(elements_range_t&&)` has no size assertion: with equal sizes (what the view-level operators
    have established through their extension assertion) it is the same loop -/
theorem ER_assign_rv_tie (dst src : ElemRange) (m : Mem α) (hs : dst.size = src.size) :
    ER_assign_rv dst src m = ElemRange.assign dst src m := by
  rw [ER_assign_rv, ite_not_bool, ElemRange.assign, if_neg (not_not_intro hs)]
  rfl

theorem ER_assign_vals_tie (dst : ElemRange) (vals : List α) (m : Mem α) :
    ER_assign_vals dst vals m = ElemRange.assignVals dst vals m := by
  rw [ER_assign_vals, ite_int_beq]
  rfl

theorem ER_swap_tie (a b : ElemRange) (m : Mem α) : ER_swap a b m = ElemRange.swap a b m := by
  rw [ER_swap, ite_int_beq]
  rfl

theorem ER_eq_tie [DecidableEq α] (a b : ElemRange) (m : Mem α) : ER_eq a b m = ElemRange.eq a b m := by
  rw [ER_eq, ite_int_beq]
  rfl

theorem ER_ne_tie [DecidableEq α] (a b : ElemRange) (m : Mem α) : ER_ne a b m = ElemRange.ne a b m := by
  simp only [ER_ne, ElemRange.ne, bne_iff_ne, Option.map_bind, Function.comp_def]
  rfl

/-! ### `subarray<T, D>::operator=` (every overload taking a view) and `swap` -/

section views
variable (b : Int) (d : Dim) (sub : Layout) (src : View) (m : Mem α)

theorem SV_assign_same_tie :
    SV_assign_same ⟨b, d :: sub⟩ src m false = View.assign ⟨b, d :: sub⟩ src m ∧ SV_assign_same ⟨b, d :: sub⟩ src m true = some m :=
  ⟨rfl, rfl⟩
theorem SV_assign_copy_tie :
    SV_assign_copy ⟨b, d :: sub⟩ src m false = View.assign ⟨b, d :: sub⟩ src m ∧ SV_assign_copy ⟨b, d :: sub⟩ src m true = some m :=
  ⟨rfl, rfl⟩
theorem SV_assign_other_tie : SV_assign_other ⟨b, d :: sub⟩ src m = View.assignT ⟨b, d :: sub⟩ src m := by
  rw [SV_assign_other, View.assignT, Exts.eqv_comm src.exts]
theorem SV_assign_rest_tie :
    SV_assign_other_rv ⟨b, d :: sub⟩ src m = View.assign ⟨b, d :: sub⟩ src m ∧
    SV_assign_from_rv ⟨b, d :: sub⟩ src m = View.assign ⟨b, d :: sub⟩ src m ∧
    SV_assign_from_sub_rv ⟨b, d :: sub⟩ src m = View.assign ⟨b, d :: sub⟩ src m ∧
    SV_assign_move ⟨b, d :: sub⟩ src m = View.assign ⟨b, d :: sub⟩ src m :=
  ⟨rfl, rfl, rfl, rfl⟩
theorem SV_swap_tie : SV_swap ⟨b, d :: sub⟩ src m = View.swap ⟨b, d :: sub⟩ src m := rfl
end views

/-! ### comparison -/

section cmp
variable [DecidableEq α] (b : Int) (d : Dim) (sub : Layout) (o : View) (m : Mem α) (ltE : α → α → Bool)

theorem V_eq_tie : V_eq ⟨b, d :: sub⟩ o m = View.eq ⟨b, d :: sub⟩ o m := rfl
theorem V_ne_tie : V_ne ⟨b, d :: sub⟩ o m = View.ne ⟨b, d :: sub⟩ o m := rfl

/-- D = 1: `extension() == other.extension()` is the one-dimensional `extensions() == other.extensions()` -/
theorem V1_eq_tie (d' : Dim) (b' : Int) :
    V1_eq ⟨b, [d]⟩ ⟨b', [d']⟩ m = View.eq ⟨b, [d]⟩ ⟨b', [d']⟩ m ∧ V1_ne ⟨b, [d]⟩ ⟨b', [d']⟩ m = View.ne ⟨b, [d]⟩ ⟨b', [d']⟩ m := by
  have h : Exts.eqv (View.mk b [d]).exts (View.mk b' [d']).exts = d.ext.eqv d'.ext := Bool.and_true _
  exact ⟨by rw [View.eq, h]; rfl, by rw [View.ne, h]; rfl⟩

theorem V_lt_tie (s : View) : V_lt s o m ltE = some (View.lt ltE s o m) ∧ V_gt s o m ltE = some (View.gt ltE s o m) ∧
    V1_lt s o m ltE = some (View.lt ltE s o m) ∧ V1_gt s o m ltE = some (View.gt ltE s o m) :=
  ⟨rfl, rfl, rfl, rfl⟩

/-- the body of `lexicographical_compare` (D > 1 friend, the mixed-type `operator<`, and the D = 1 `lexicographical_compare_`):
    first-index pre-test, then `adl_lexicographical_compare` over the rows — one unfolding of the model's `lexCompare` -/
theorem V_lex_tie (d' : Dim) (sub' : Layout) (b' : Int) :
    V_lex ⟨b, d :: sub⟩ ⟨b', d' :: sub'⟩ m ltE = some (View.lt ltE ⟨b, d :: sub⟩ ⟨b', d' :: sub'⟩ m) ∧
    V_lt_other ⟨b, d :: sub⟩ ⟨b', d' :: sub'⟩ m ltE = some (View.lt ltE ⟨b, d :: sub⟩ ⟨b', d' :: sub'⟩ m) ∧
    V1_lex ⟨b, d :: sub⟩ ⟨b', d' :: sub'⟩ m ltE = some (View.lt ltE ⟨b, d :: sub⟩ ⟨b', d' :: sub'⟩ m) := by
  have key : V_lex ⟨b, d :: sub⟩ ⟨b', d' :: sub'⟩ m ltE = some (View.lt ltE ⟨b, d :: sub⟩ ⟨b', d' :: sub'⟩ m) := by
    rw [View.lt, lexCompare]
    simp only [V_lex, lexRowsOf, decide_eq_true_eq, GT.gt, apply_ite some]
    rfl
  exact ⟨key, key, key⟩

theorem V_le_tie (d1 : Dim) : V_le ⟨b, d :: d1 :: sub⟩ o m ltE = View.le ltE ⟨b, d :: d1 :: sub⟩ o m := rfl

theorem V1_le_tie : V1_le ⟨b, [d]⟩ o m ltE = View.le ltE ⟨b, [d]⟩ o m ∧ V1_ge ⟨b, [d]⟩ o m ltE = View.ge ltE ⟨b, [d]⟩ o m :=
  ⟨rfl, rfl⟩
end cmp

/-! ### `array_ref` (whole arrays: flat copies and flat comparison over `data_elements()`) -/

theorem AR_assign_tie (dst src : View) (m : Mem α) :
    AR_assign dst src m false = View.arefAssign dst src m ∧ AR_assign dst src m true = some m ∧
    AR_assign_T dst src m = View.arefAssignT dst src m := by
  refine ⟨?_, rfl, rfl⟩
  rw [View.arefAssign, ← ite_int_beq]
  rfl

/-- the `&&` overload for another element/pointer type asserts equal EXTENSIONS and then runs `copy_elements_` (count taken
    from the destination): with equal extensions both counts agree, so it is `View.arefAssignT` -/
theorem AR_assign_other_rv_tie (dst src : View) (m : Mem α) (hn : Exts.eqv dst.exts src.exts = true → dst.numElements = src.numElements) :
    AR_assign_other_rv dst src m = View.arefAssignT dst src m := by
  simp only [AR_assign_other_rv, View.arefAssignT, AR_copy_elements]
  split
  · rename_i h; rw [hn h]
  · rfl

theorem AR_eq_tie [DecidableEq α] (a b : View) (m : Mem α) :
    AR_eq a b m = some (View.arefEq a b m) ∧ AR_ne a b m = some (View.arefNe a b m) := by
  constructor
  · rw [AR_eq, View.arefEq]
    cases Exts.eqv a.exts b.exts <;> rfl
  · rw [AR_ne, View.arefNe]
    cases Exts.eqv a.exts b.exts <;> rfl

/-! ### summaries (the names the checks audit) -/

theorem assignment_is_the_code (b : Int) (d : Dim) (sub : Layout) (src : View) (r s : ElemRange) (vals : List α) (m : Mem α) :
    ER_assign r s m = ElemRange.assign r s m ∧ (r.size = s.size → ER_assign_rv r s m = ElemRange.assign r s m) ∧
    ER_assign_vals r vals m = ElemRange.assignVals r vals m ∧ ER_swap r s m = ElemRange.swap r s m ∧
    SV_assign_same ⟨b, d :: sub⟩ src m false = View.assign ⟨b, d :: sub⟩ src m ∧
    SV_assign_copy ⟨b, d :: sub⟩ src m false = View.assign ⟨b, d :: sub⟩ src m ∧
    SV_assign_other ⟨b, d :: sub⟩ src m = View.assignT ⟨b, d :: sub⟩ src m ∧
    SV_assign_other_rv ⟨b, d :: sub⟩ src m = View.assign ⟨b, d :: sub⟩ src m ∧
    SV_assign_from_rv ⟨b, d :: sub⟩ src m = View.assign ⟨b, d :: sub⟩ src m ∧
    SV_assign_from_sub_rv ⟨b, d :: sub⟩ src m = View.assign ⟨b, d :: sub⟩ src m ∧
    SV_assign_move ⟨b, d :: sub⟩ src m = View.assign ⟨b, d :: sub⟩ src m ∧
    SV_swap ⟨b, d :: sub⟩ src m = View.swap ⟨b, d :: sub⟩ src m :=
  ⟨ER_assign_tie r s m, ER_assign_rv_tie r s m, ER_assign_vals_tie r vals m, ER_swap_tie r s m,
   (SV_assign_same_tie b d sub src m).1, (SV_assign_copy_tie b d sub src m).1, SV_assign_other_tie b d sub src m,
   (SV_assign_rest_tie b d sub src m).1, (SV_assign_rest_tie b d sub src m).2.1, (SV_assign_rest_tie b d sub src m).2.2.1,
   (SV_assign_rest_tie b d sub src m).2.2.2, SV_swap_tie b d sub src m⟩

theorem comparison_is_the_code [DecidableEq α] (b b' : Int) (d d1 d' : Dim) (sub sub' : Layout) (o : View) (r s : ElemRange) (m : Mem α)
    (ltE : α → α → Bool) :
    ER_eq r s m = ElemRange.eq r s m ∧ ER_ne r s m = ElemRange.ne r s m ∧
    V_eq ⟨b, d :: sub⟩ o m = View.eq ⟨b, d :: sub⟩ o m ∧ V_ne ⟨b, d :: sub⟩ o m = View.ne ⟨b, d :: sub⟩ o m ∧
    V1_eq ⟨b, [d]⟩ ⟨b', [d']⟩ m = View.eq ⟨b, [d]⟩ ⟨b', [d']⟩ m ∧ V1_ne ⟨b, [d]⟩ ⟨b', [d']⟩ m = View.ne ⟨b, [d]⟩ ⟨b', [d']⟩ m ∧
    V_lex ⟨b, d :: sub⟩ ⟨b', d' :: sub'⟩ m ltE = some (View.lt ltE ⟨b, d :: sub⟩ ⟨b', d' :: sub'⟩ m) ∧
    V_lt_other ⟨b, d :: sub⟩ ⟨b', d' :: sub'⟩ m ltE = some (View.lt ltE ⟨b, d :: sub⟩ ⟨b', d' :: sub'⟩ m) ∧
    V1_lex ⟨b, d :: sub⟩ ⟨b', d' :: sub'⟩ m ltE = some (View.lt ltE ⟨b, d :: sub⟩ ⟨b', d' :: sub'⟩ m) ∧
    V_lt o o m ltE = some (View.lt ltE o o m) ∧ V_gt ⟨b, d :: sub⟩ o m ltE = some (View.gt ltE ⟨b, d :: sub⟩ o m) ∧
    V_le ⟨b, d :: d1 :: sub⟩ o m ltE = View.le ltE ⟨b, d :: d1 :: sub⟩ o m ∧
    V1_le ⟨b, [d]⟩ o m ltE = View.le ltE ⟨b, [d]⟩ o m ∧ V1_ge ⟨b, [d]⟩ o m ltE = View.ge ltE ⟨b, [d]⟩ o m :=
  ⟨ER_eq_tie r s m, ER_ne_tie r s m, V_eq_tie b d sub o m, V_ne_tie b d sub o m, (V1_eq_tie b d m d' b').1, (V1_eq_tie b d m d' b').2,
   (V_lex_tie b d sub m ltE d' sub' b').1, (V_lex_tie b d sub m ltE d' sub' b').2.1, (V_lex_tie b d sub m ltE d' sub' b').2.2,
   rfl, rfl, V_le_tie b d sub o m ltE d1, (V1_le_tie b d o m ltE).1, (V1_le_tie b d o m ltE).2⟩

end Multi.GenTieStore
