/-
  C14 — LAPACK adaptor: orientation and argument logic of potrf / geqrf / gesvd / syev.

  What is proved: the integer/flag/pointer logic of the adaptor — which LAPACK matrix the arguments denote in terms of
  the LOGICAL view, which triangle is selected, which view is returned — for every size and every accepted layout, under
  stated LAPACK contracts (`PotrfPost`, `GesvdPost`, `SyevPost` in MultiModel/Lapack.lean, over a commutative ring: the
  real case).
  What cannot be proved: "within rounding error", the order of eigen/singular values, positive-definiteness detection —
  properties of the numerical library in floating point; they are validated by the correspondence run only.
-/
import MultiProofs.C01
import MultiModel.Lapack
import MultiProofs.FftSpec   -- sumTo_congr

namespace Multi
namespace C14
open Lean.Grind

theorem dim_zero_based {d : Dim} {n : Int} (hn : 0 < n) (hd : d.WF) (he : d.ext = ⟨0, n⟩) :
    d.offset = 0 ∧ d.size = n ∧ 0 < d.stride := by
  have hne : d.nelems ≠ 0 := fun h0 => by
    rw [Dim.ext_of_nelems_zero h0] at he
    exact Int.ne_of_lt hn (Ext.mk.inj he).2
  exact ⟨by rw [hd.offset_eq hne, he, Int.zero_mul], by rw [hd.size_eq, he]; exact Int.sub_zero n, hd.stride_pos hne⟩

theorem vector_view {w : View} {d : Dim} {n : Int} (hn : 0 < n) (hlay : w.lay = [d]) (hwf : w.lay.WF)
    (hext : w.exts = [⟨0, n⟩]) (hs : w.stride0 = 1) (k : Int) : w.addr [k] = w.base + k := by
  rw [hlay] at hwf
  have e : d.ext = ⟨0, n⟩ := by simpa [View.exts, hlay, Layout.exts] using hext
  obtain ⟨o, _, _⟩ := dim_zero_based hn hwf.head e
  have hst : d.stride = 1 := by simpa [View.stride0, hlay] using hs
  rw [addr_eq, hlay]
  show w.base + (k * d.stride - d.offset + 0) = _
  rw [o, hst, Int.mul_one, Int.sub_zero, Int.add_zero]

/-- a zero-based `p × q` matrix view: element `[i][j]` is at `base + i·stride₀ + j·stride₁` -/
theorem matrix_view (A : View) (d0 d1 : Dim) (p q : Int) (hp : 0 < p) (hq : 0 < q)
    (hlay : A.lay = [d0, d1]) (hwf : A.lay.WF) (hext : A.exts = [⟨0, p⟩, ⟨0, q⟩]) :
    (∀ i j : Int, A.addr [i, j] = A.base + i * d0.stride + j * d1.stride) ∧
    A.size = p ∧ A.size1 = q ∧ A.stride0 = d0.stride ∧ A.stride1 = d1.stride ∧ 0 < d0.stride ∧ 0 < d1.stride ∧
    A.rotated = ⟨A.base, [d1, d0]⟩ := by
  rw [hlay] at hwf
  have e : d0.ext = ⟨0, p⟩ ∧ d1.ext = ⟨0, q⟩ := by
    simpa [View.exts, hlay, Layout.exts] using hext
  obtain ⟨o0, s0, t0⟩ := dim_zero_based hp hwf.head e.1
  obtain ⟨o1, s1, t1⟩ := dim_zero_based hq hwf.tail.head e.2
  refine ⟨?_, by simp [View.size, hlay, s0], by simp [View.size1, hlay, s1], by simp [View.stride0, hlay],
    by simp [View.stride1, hlay], t0, t1, by simp [View.rotated, hlay, Layout.rotate]⟩
  intro i j
  rw [addr_eq, hlay]
  show A.base + (i * d0.stride - d0.offset + (j * d1.stride - d1.offset + 0)) = _
  rw [o0, o1, Int.sub_zero, Int.sub_zero, Int.add_zero, Int.add_assoc]

/-- what LAPACK's column-major addressing designates in a zero-based matrix view: with unit inner stride and leading
    dimension `stride₀` its element `(i, j)` is the view's `[j][i]` (a row-major matrix is the column-major transpose);
    with unit leading stride and leading dimension `stride₁` it is the view's `[i][j]` -/
theorem colMajor_view {A : View} {d0 d1 : Dim} {p q : Int} (hp : 0 < p) (hq : 0 < q)
    (hlay : A.lay = [d0, d1]) (hwf : A.lay.WF) (hext : A.exts = [⟨0, p⟩, ⟨0, q⟩]) :
    (A.stride1 = 1 → ∀ i j : Int, colMajor A.base A.stride0 i j = A.addr [j, i]) ∧
    (A.stride0 = 1 → ∀ i j : Int, colMajor A.base A.stride1 i j = A.addr [i, j]) := by
  obtain ⟨ha, _, _, t0, t1, _, _, _⟩ := matrix_view A d0 d1 p q hp hq hlay hwf hext
  constructor
  · intro h i j
    show A.base + i + j * A.stride0 = _
    rw [ha, ← t0, ← t1, h, Int.mul_one, Int.add_right_comm]
  · intro h i j
    show A.base + i + j * A.stride1 = _
    rw [ha, ← t0, ← t1, h, Int.mul_one]

/-- a call-syntax selection whose documented index mapping is the identity designates the view's own elements -/
theorem paren_block (A : View) (hwf : A.lay.WF) (args : List Arg) (es : List Ext) (hext : A.exts = es)
    (dom : argsInDomain args es) (hid : ∀ idx, InBox (callShape args es) idx → callMap args es idx = idx) :
    (A.paren args).exts = callShape args es ∧
      ∀ idx, InBox (callShape args es) idx → (A.paren args).addr idx = A.addr idx := by
  obtain ⟨_, x2, x3⟩ := C01.op_refines (Op.call args) A hwf (show argsInDomain args A.exts from hext ▸ dom)
  rw [hext] at x2 x3
  exact ⟨x2, fun idx hidx => (x3 idx hidx).1.trans (congrArg A.addr (hid idx hidx))⟩

/-- the leading block selected with the call syntax designates the view's own elements -/
theorem leading_block (A : View) (n r : Int) (hwf : A.lay.WF) (hext : A.exts = [⟨0, n⟩, ⟨0, n⟩]) (hr : 0 ≤ r ∧ r ≤ n) :
    ((A.paren [Arg.rng 0 r, Arg.rng 0 r]).exts = [Ext.norm ⟨0, r⟩, Ext.norm ⟨0, r⟩] ∧
      ∀ idx, InBox [Ext.norm ⟨0, r⟩, Ext.norm ⟨0, r⟩] idx → (A.paren [Arg.rng 0 r, Arg.rng 0 r]).addr idx = A.addr idx) ∧
    ((A.paren [Arg.rng 0 r]).exts = [Ext.norm ⟨0, r⟩, ⟨0, n⟩] ∧
      ∀ idx, InBox [Ext.norm ⟨0, r⟩, ⟨0, n⟩] idx → (A.paren [Arg.rng 0 r]).addr idx = A.addr idx) := by
  have hid : ∀ {e0 e1 : Ext} {idx : List Int}, InBox [e0, e1] idx →
      callMap [Arg.rng 0 r, Arg.rng 0 r] [⟨0, n⟩, ⟨0, n⟩] idx = idx ∧ callMap [Arg.rng 0 r] [⟨0, n⟩, ⟨0, n⟩] idx = idx := by
    intro e0 e1 idx h
    obtain ⟨a, _, rfl, _, _, h⟩ := inBox_cons h
    obtain ⟨b, _, rfl, _⟩ := inBox_cons h
    simp only [callMap, Int.sub_zero, Int.zero_add, and_self]
  have dom : Arg.InDomain (.rng 0 r) ⟨0, n⟩ := ⟨Int.le_refl 0, hr.1, hr.2⟩
  constructor
  · have := paren_block A hwf [Arg.rng 0 r, Arg.rng 0 r] _ hext ⟨dom, dom, trivial⟩
      (fun idx hidx => (hid hidx).1)
    simpa only [callShape, Int.sub_zero, Int.zero_add] using this
  · have := paren_block A hwf [Arg.rng 0 r] _ hext ⟨dom, trivial⟩
      (fun idx hidx => (hid hidx).2)
    simpa only [callShape, Int.sub_zero, Int.zero_add] using this

theorem potrfOrder_bounds {n info : Int} (h0 : 0 ≤ info) (h1 : info ≤ n) :
    0 ≤ potrfOrder n info ∧ potrfOrder n info ≤ n := by
  unfold potrfOrder; split <;> omega

section
variable {R : Type} [CommRing R]

/-- **potrf.**  `A` a zero-based `n×n` view that the adaptor accepts (unit leading stride, or unit inner stride),
    contiguous or padded, `uplo` either triangle; under LAPACK's contract for the call made:
    (1) the returned view is the leading `r×r` block of `A` (its own elements), `r = n` or `info − 1`, in both branches;
    (2) the selected LOGICAL triangle of the leading `r×r` block holds `T` with `TᵀT = A` (`upper`) resp. `TTᵀ = A` (`lower`)
        in the view's own index space, for both storage orientations;
    (3) only elements of that logical triangle of the view are written. -/
theorem potrf_orientation (uplo : Filling) (A : View) (d0 d1 : Dim) (n : Int) (hn : 0 < n)
    (hlay : A.lay = [d0, d1]) (hwf : A.lay.WF) (hext : A.exts = [⟨0, n⟩, ⟨0, n⟩])
    (hassert : potrfAsserts A = true) (info : Int) (mem mem' : Int → R)
    (hpost : PotrfPost (potrfCall uplo A) info mem mem') :
    let r := potrfOrder n info
    let ret := potrfResult A info
    let T := fun (p q : Nat) => mem' (A.addr [p, q])
    let A0 := fun (p q : Nat) => mem (A.addr [p, q])
    (0 ≤ r ∧ r ≤ n) ∧
    (ret.exts = [Ext.norm ⟨0, r⟩, Ext.norm ⟨0, r⟩]) ∧
    (∀ idx, InBox ret.exts idx → ret.addr idx = A.addr idx) ∧
    (uplo = .upper → ∀ i j : Nat, i ≤ j → (j : Int) < r → sumTo (i + 1) (fun k => T k i * T k j) = A0 i j) ∧
    (uplo = .lower → ∀ i j : Nat, j ≤ i → (i : Int) < r → sumTo (j + 1) (fun k => T i k * T j k) = A0 i j) ∧
    (∀ addr, (∀ i j : Nat, (i : Int) < n → (j : Int) < n → (uplo = .upper → i ≤ j) → (uplo = .lower → j ≤ i) → addr ≠ A.addr [i, j]) →
      mem' addr = mem addr) := by
  intro r ret T A0
  obtain ⟨_, hsz, hsz1, _, _, _, _, hrot⟩ := matrix_view A d0 d1 n n hn hn hlay hwf hext
  obtain ⟨cmT, cmD⟩ := colMajor_view hn hn hlay hwf hext
  have hrs : A.rotated.size = n := by
    rw [hrot]; simpa [View.size, View.size1, hlay] using hsz1
  have hcn : (potrfCall uplo A).n = n := by
    unfold potrfCall potrfIter; split
    · exact hrs
    · exact hsz
  have hr : 0 ≤ r ∧ r ≤ n := potrfOrder_bounds hpost.1 (hcn ▸ hpost.2.1)
  have hret : ret = A.paren [Arg.rng 0 r, Arg.rng 0 r] := by
    simp only [ret, r, potrfResult, hrs, hsz, ite_self]
  obtain ⟨⟨b1, b2⟩, _⟩ := leading_block A n r hwf hext hr
  refine ⟨hr, hret ▸ b1, by rw [hret, b1]; exact b2, ?_⟩
  by_cases hb : A.stride0 = 1
  · -- `stride(A) == 1`: LAPACK sees A itself, with the flipped filling
    have hcall : potrfCall uplo A = ⟨uplo.flip.char, n, A.base, A.stride1⟩ := by
      simp only [potrfCall, if_pos hb, potrfIter, hrs]
      rw [hrot]; simp [View.stride0, View.stride1, hlay]
    rw [hcall] at hpost
    obtain ⟨_, _, hU, hL, hframe⟩ := hpost
    simp only [cmD hb] at hU hL hframe
    refine ⟨?_, ?_, ?_⟩
    · rintro rfl
      exact hU rfl
    · rintro rfl
      exact hL rfl
    · exact fun addr hne => hframe addr fun i j hi hj c1 c2 =>
        hne i j hi hj (fun hu => c1 (by rw [hu]; rfl)) (fun hl => c2 (by rw [hl]; rfl))
  · -- row-major: LAPACK sees the transpose of A; the enum's character already accounts for it
    have h1 : A.stride1 = 1 := by
      simpa [potrfAsserts, if_neg hb, potrfIterAsserts] using hassert
    have hcall : potrfCall uplo A = ⟨uplo.char, n, A.base, A.stride0⟩ := by
      simp only [potrfCall, if_neg hb, potrfIter, hsz]
    rw [hcall] at hpost
    obtain ⟨_, _, hU, hL, hframe⟩ := hpost
    simp only [cmT h1] at hU hL hframe
    refine ⟨?_, ?_, ?_⟩
    · rintro rfl i j hij hj
      exact (sumTo_congr _ fun k _ => CommRing.mul_comm _ _).trans (hL rfl j i hij hj)
    · rintro rfl i j hij hi
      exact (sumTo_congr _ fun k _ => CommRing.mul_comm _ _).trans (hU rfl j i hij hi)
    · exact fun addr hne => hframe addr fun i j hi hj c1 c2 =>
        hne j i hj hi (fun hu => c2 (by rw [hu]; rfl)) (fun hl => c1 (by rw [hl]; rfl))

/-- **gesvd reconstructs.**  Under LAPACK's contract for the call made, the three output views satisfy
    `AA = UU · diag(ss) · VV` elementwise in the views' own index spaces (so `VV` holds the transposed right singular
    vectors, as the header's parameter name `VTArray2D` says; `UU·diag(ss)·VVᵀ` is NOT what is computed). -/
theorem gesvd_reconstructs (AA UU ss VV : View) (a0 a1 u0 u1 v0 v1 sd : Dim) (p q : Int) (hp : 0 < p) (hq : 0 < q)
    (hA : AA.lay = [a0, a1]) (hAwf : AA.lay.WF) (hAe : AA.exts = [⟨0, p⟩, ⟨0, q⟩])
    (hU : UU.lay = [u0, u1]) (hUwf : UU.lay.WF) (hUe : UU.exts = [⟨0, p⟩, ⟨0, p⟩])
    (hV : VV.lay = [v0, v1]) (hVwf : VV.lay.WF) (hVe : VV.exts = [⟨0, q⟩, ⟨0, q⟩])
    (hS : ss.lay = [sd]) (hSwf : ss.lay.WF) (hSe : ss.exts = [⟨0, min p q⟩])
    (hassert : gesvdAsserts AA UU ss VV = true) (mem mem' : Int → R)
    (hpost : GesvdPost (gesvdCall AA UU ss VV) mem mem') :
    let c := gesvdCall AA UU ss VV
    (c.m = q ∧ c.n = p ∧ c.jobu = 'A' ∧ c.jobvt = 'A') ∧
    (∀ i j : Nat, colMajor c.a c.lda i j = AA.addr [(j : Int), (i : Int)]) ∧
    (∀ i k : Nat, colMajor c.u c.ldu i k = VV.addr [(k : Int), (i : Int)]) ∧
    (∀ k j : Nat, colMajor c.vt c.ldvt k j = UU.addr [(j : Int), (k : Int)]) ∧
    (∀ k : Nat, c.s + k = ss.addr [(k : Int)]) ∧
    (∀ i j : Nat, (i : Int) < p → (j : Int) < q →
      sumTo (min p q).toNat (fun k => mem' (UU.addr [(i : Int), (k : Int)]) * mem' (ss.addr [(k : Int)]) * mem' (VV.addr [(k : Int), (j : Int)]))
        = mem (AA.addr [(i : Int), (j : Int)])) := by
  intro c
  obtain ⟨_, sU, _⟩ := matrix_view UU u0 u1 p p hp hp hU hUwf hUe
  obtain ⟨_, sV, _⟩ := matrix_view VV v0 v1 q q hq hq hV hVwf hVe
  simp only [gesvdAsserts, Bool.and_eq_true, beq_iff_eq] at hassert
  obtain ⟨⟨⟨⟨⟨⟨_, _⟩, _⟩, hA1⟩, hS1⟩, hU1⟩, hV1⟩ := hassert
  -- all three matrices are row-major: LAPACK sees their transposes
  have cA := (colMajor_view hp hq hA hAwf hAe).1 hA1
  have cU := (colMajor_view hq hq hV hVwf hVe).1 hV1
  have cV := (colMajor_view hp hp hU hUwf hUe).1 hU1
  have cS : ∀ k : Int, ss.base + k = ss.addr [k] :=
    fun k => (vector_view (Int.lt_min.mpr ⟨hp, hq⟩) hS hSwf hSe hS1 k).symm
  refine ⟨⟨sV, sU, rfl, rfl⟩, fun i j => cA i j, fun i k => cU i k, fun k j => cV k j, fun k => cS k, ?_⟩
  intro i j hi hj
  have := hpost j i (sV ▸ hj : (j : Int) < VV.size) (sU ▸ hi : (i : Int) < UU.size)
  simp only [gesvdCall, cA, cU, cV, cS, sU, sV] at this
  rw [← this, Int.min_comm]
  exact sumTo_congr _ fun k _ => by
    rw [CommRing.mul_comm, CommRing.mul_comm (mem' (UU.addr _)), Semiring.mul_assoc]

end

/-- **geqrf.**  For a zero-based `p×q` view with unit inner stride (row-major, contiguous or padded; this precondition is
    asserted by geqrf.hpp:40 since the fix commit), the arguments denote the `q×p` column-major matrix `aaᵀ`, element by
    element inside the view; they are legal for LAPACK exactly when the rows of the view do not overlap. -/
theorem geqrf_arguments (aa tau : View) (d0 d1 : Dim) (p q : Int) (hp : 0 < p) (hq : 0 < q)
    (hlay : aa.lay = [d0, d1]) (hwf : aa.lay.WF) (hext : aa.exts = [⟨0, p⟩, ⟨0, q⟩]) (hin : aa.stride1 = 1) :
    let c := geqrfCall aa tau
    c.m = q ∧ c.n = p ∧ c.a = aa.base ∧ c.tau = tau.base ∧
    (∀ i j : Nat, colMajor c.a c.lda i j = aa.addr [(j : Int), (i : Int)]) ∧
    (max 1 c.m ≤ c.lda ↔ q ≤ d0.stride) := by
  intro c
  obtain ⟨_, s0, s1, t0, _, _, _, _⟩ := matrix_view aa d0 d1 p q hp hq hlay hwf hext
  have hc : c = ⟨q, p, aa.base, d0.stride, tau.base⟩ := by simp only [c, geqrfCall, s0, s1, t0]
  refine ⟨by rw [hc], by rw [hc], rfl, rfl, ?_, ?_⟩
  · exact fun i j => (colMajor_view hp hq hlay hwf hext).1 hin i j
  · rw [hc]
    show max 1 q ≤ d0.stride ↔ _
    rw [Int.max_eq_right (by omega)]

/-- without the unit inner stride the same arguments do NOT denote the view: LAPACK's element (1,0) is the cell right
    after the first element, which is not the view's `[0][1]` — which is why geqrf asserts the unit inner stride -/
theorem geqrf_needs_unit_inner_stride (aa tau : View) (d0 d1 : Dim) (p q : Int) (hp : 0 < p) (hq : 0 < q)
    (hlay : aa.lay = [d0, d1]) (hwf : aa.lay.WF) (hext : aa.exts = [⟨0, p⟩, ⟨0, q⟩]) (hin : aa.stride1 ≠ 1) :
    colMajor (geqrfCall aa tau).a (geqrfCall aa tau).lda 1 0 ≠ aa.addr [0, 1] := by
  obtain ⟨ha, _, _, _, t1, _, _, _⟩ := matrix_view aa d0 d1 p q hp hq hlay hwf hext
  intro h
  rw [ha] at h
  have h : aa.base + 1 + 0 * aa.stride0 = aa.base + 0 * d0.stride + 1 * d1.stride := h
  rw [Int.zero_mul, Int.zero_mul, Int.one_mul, Int.add_zero, Int.add_zero] at h
  exact hin (t1.trans (Int.add_left_cancel h).symm)

/-- **syev.**  For a zero-based `n×n` view: with unit inner stride LAPACK sees `aᵀ`, is told the opposite triangle character
    (so that it reads the LOGICAL triangle `uplo`), and its eigenvector `k` (a column of LAPACK's matrix) is ROW `k` of the
    view; with unit leading stride LAPACK sees `a` itself, the same triangle, and eigenvector `k` is COLUMN `k` of the view;
    any other layout hits `assert(0)`.  In both branches `w`, `work` and `lwork = size(work)` are passed as given. -/
theorem syev_arguments (uplo : Filling) (a w work : View) (d0 d1 : Dim) (n : Int) (hn : 0 < n)
    (hlay : a.lay = [d0, d1]) (hwf : a.lay.WF) (hext : a.exts = [⟨0, n⟩, ⟨0, n⟩]) :
    (a.stride1 = 1 → ∃ c, syevCall uplo a w work = some c ∧ c.jobz = 'V' ∧ c.n = n ∧ c.w = w.base ∧
        c.work = work.base ∧ c.lwork = work.size ∧ c.lda = d0.stride ∧
        c.uplo = (match uplo with | .upper => 'L' | .lower => 'U') ∧
        ∀ i j : Nat, colMajor c.a c.lda i j = a.addr [(j : Int), (i : Int)]) ∧
    (a.stride1 ≠ 1 → a.stride0 = 1 → ∃ c, syevCall uplo a w work = some c ∧ c.jobz = 'V' ∧ c.n = n ∧ c.w = w.base ∧
        c.work = work.base ∧ c.lwork = work.size ∧ c.lda = d1.stride ∧
        c.uplo = (match uplo with | .upper => 'U' | .lower => 'L') ∧
        ∀ i j : Nat, colMajor c.a c.lda i j = a.addr [(i : Int), (j : Int)]) ∧
    (a.stride1 ≠ 1 → a.stride0 ≠ 1 → syevCall uplo a w work = none) := by
  obtain ⟨_, s0, _, t0, t1, _, _, _⟩ := matrix_view a d0 d1 n n hn hn hlay hwf hext
  obtain ⟨cmT, cmD⟩ := colMajor_view hn hn hlay hwf hext
  refine ⟨?_, ?_, ?_⟩
  · intro h1
    exact ⟨_, if_pos h1, rfl, s0, rfl, rfl, rfl, t0, by cases uplo <;> rfl, fun i j => cmT h1 i j⟩
  · intro h1 h0
    exact ⟨_, (if_neg h1).trans (if_pos h0), rfl, s0, rfl, rfl, rfl, t1, by cases uplo <;> rfl,
      fun i j => cmD h0 i j⟩
  · exact fun h1 h0 => (if_neg h1).trans (if_neg h0)

/-- the view `syev` returns, `a({0, n − info}, {0, n − info})`, is the leading `(n − info)`-block of `a` itself — the whole
    view when LAPACK reports success (`info = 0`) -/
theorem syev_result (a : View) (n info : Int) (hwf : a.lay.WF) (hext : a.exts = [⟨0, n⟩, ⟨0, n⟩]) (hn : 0 < n)
    (d0 d1 : Dim) (hlay : a.lay = [d0, d1]) (hi : 0 ≤ info ∧ info ≤ n) :
    (syevResult a info).exts = [Ext.norm ⟨0, n - info⟩, Ext.norm ⟨0, n - info⟩] ∧
    (∀ idx, InBox [Ext.norm ⟨0, n - info⟩, Ext.norm ⟨0, n - info⟩] idx → (syevResult a info).addr idx = a.addr idx) ∧
    (info = 0 → (syevResult a info).exts = a.exts) := by
  obtain ⟨_, s0, _⟩ := matrix_view a d0 d1 n n hn hn hlay hwf hext
  obtain ⟨⟨b1, b2⟩, _⟩ := leading_block a n (n - info) hwf hext ⟨Int.sub_nonneg_of_le hi.2, Int.sub_le_self n hi.1⟩
  have e : syevResult a info = a.paren [Arg.rng 0 (n - info), Arg.rng 0 (n - info)] := by simp only [syevResult, s0]
  refine ⟨by rw [e]; exact b1, by rw [e]; exact b2, ?_⟩
  intro h0
  rw [e, b1, hext, h0, Int.sub_zero]
  have : Ext.norm ⟨0, n⟩ = ⟨0, n⟩ := if_neg (show ¬ n - 0 = 0 by omega)
  rw [this]

/-- the convenience overloads: the workspace they allocate satisfies the routine's own assertion, and the `const&`
    overloads run on a fresh ROW-major copy (so they take the first branch and return eigenvectors as rows, whatever the
    storage order of the input) -/
theorem syev_overloads (a w : View) (n : Int) (hn : 0 < n) (hsz : a.size = n) (hexts : a.exts = [⟨0, n⟩, ⟨0, n⟩])
    (hw : w.size = n ∧ w.stride0 = 1) (fb1 fb2 : Int) :
    syevAsserts a w (syevAutoWork a fb1) = true ∧
    (decayView a fb2).stride1 = 1 ∧ (decayView a fb2).stride0 = n ∧ (decayView a fb2).exts = [⟨0, n⟩, ⟨0, n⟩] := by
  have hm : 0 < max 1 (3 * n - 1) := Int.lt_of_lt_of_le Int.one_pos (Int.le_max_left _ _)
  have hn0 : n ≠ 0 := Int.ne_of_gt hn
  have hws : (syevAutoWork a fb1).size = max 1 (3 * n - 1) ∧ (syevAutoWork a fb1).stride0 = 1 := by
    simp only [syevAutoWork, hsz]
    simp only [View.size, View.stride0, Layout.ofExts, Layout.numElements, Ext.size]
    exact ⟨by simpa using Dim.size_of_stride_pos (s := 1) (f := 0) Int.one_pos, by simp⟩
  have e2 : decayView a fb2 = ⟨fb2, [⟨n, 0 * n, n * n⟩, ⟨1, 0 * 1, n * 1⟩]⟩ := by
    simp [decayView, hexts, Layout.ofExts, Layout.numElements, Dim.size, Ext.size, hn0]
  rw [e2]
  refine ⟨?_, rfl, rfl, ?_⟩
  · simp only [syevAsserts, Bool.and_eq_true, decide_eq_true_eq, beq_iff_eq]
    rw [hws.1, hws.2, hsz, hw.1, hw.2]
    exact ⟨⟨⟨by omega, rfl⟩, rfl⟩, rfl⟩
  · show [Dim.ext _, Dim.ext _] = _
    rw [Dim.ext_mk hn hn, Dim.ext_mk Int.one_pos hn, Int.zero_add]

section
variable {R : Type} [CommRing R]

/-- the symmetric matrix a view denotes through its selected triangle -/
def symOf (uplo : Filling) (A : Nat → Nat → R) (i j : Nat) : R :=
  match uplo with
  | .upper => if i ≤ j then A i j else A j i
  | .lower => if j ≤ i then A i j else A j i

/-- the two descriptions of a triangle that share the diagonal -/
theorem ite_le_swap {α : Type} (i j : Nat) (x y : α) (h : i = j → x = y) :
    (if i ≤ j then x else y) = (if j ≤ i then y else x) := by
  by_cases hij : i ≤ j
  · by_cases hji : j ≤ i
    · rw [if_pos hij, if_pos hji]; exact h (Nat.le_antisymm hij hji)
    · rw [if_pos hij, if_neg hji]
  · rw [if_neg hij, if_pos (Nat.le_of_not_le hij)]

omit [CommRing R] in
/-- the upper triangle of `A` is the lower triangle of `Aᵀ` -/
theorem symOf_flip (uplo : Filling) (A : Nat → Nat → R) (i j : Nat) :
    symOf uplo.flip (fun p q => A q p) i j = symOf uplo A i j := by
  cases uplo
  · exact ite_le_swap i j _ _ fun h => by rw [h]
  · exact ite_le_swap j i _ _ fun h => by rw [h]

/-- `SyevPost` in terms of `symOf`, `u` being the triangle the character passed selects -/
theorem syevPost_symOf {c : SyevCall} {mem mem' : Int → R} (hpost : SyevPost c mem mem') (u : Filling)
    (hu : c.uplo = 'U' ↔ u = .upper) (i k : Nat) (hi : (i : Int) < c.n) (hk : (k : Int) < c.n) :
    sumTo c.n.toNat (fun j => symOf u (fun p q => mem (colMajor c.a c.lda p q)) i j * mem' (colMajor c.a c.lda j k))
      = mem' (c.w + k) * mem' (colMajor c.a c.lda i k) := by
  refine (sumTo_congr _ fun j _ => congrArg (· * _) ?_).trans (hpost i k hi hk)
  show symOf u _ i j = if c.uplo = 'U' then _ else _
  cases u
  · rw [if_neg (fun h => nomatch hu.mp h)]; rfl
  · rw [if_pos (hu.mpr rfl)]; rfl

/-- **syev computes eigenpairs of the LOGICAL symmetric matrix.**  Under LAPACK's contract for the call made, with
    `S = symOf uplo (a before)`: in the unit-inner-stride branch ROW `k` of `a` is an eigenvector,
    `Σ_j S(i,j)·a'[k][j] = w'[k]·a'[k][i]`; in the unit-leading-stride branch COLUMN `k` is,
    `Σ_j S(i,j)·a'[j][k] = w'[k]·a'[i][k]` — for either triangle, contiguous or padded. -/
theorem syev_eigenpairs (uplo : Filling) (a w work : View) (d0 d1 wd : Dim) (n : Int) (hn : 0 < n)
    (hlay : a.lay = [d0, d1]) (hwf : a.lay.WF) (hext : a.exts = [⟨0, n⟩, ⟨0, n⟩])
    (hwl : w.lay = [wd]) (hwwf : w.lay.WF) (hwe : w.exts = [⟨0, n⟩]) (hws : w.stride0 = 1)
    (c : SyevCall) (hc : syevCall uplo a w work = some c) (mem mem' : Int → R) (hpost : SyevPost c mem mem') :
    let A0 := fun (p q : Nat) => mem (a.addr [p, q])
    let A1 := fun (p q : Nat) => mem' (a.addr [p, q])
    let W := fun (k : Nat) => mem' (w.addr [k])
    (a.stride1 = 1 → ∀ i k : Nat, (i : Int) < n → (k : Int) < n →
      sumTo n.toNat (fun j => symOf uplo A0 i j * A1 k j) = W k * A1 k i) ∧
    (a.stride1 ≠ 1 → ∀ i k : Nat, (i : Int) < n → (k : Int) < n →
      sumTo n.toNat (fun j => symOf uplo A0 i j * A1 j k) = W k * A1 i k) := by
  intro A0 A1 W
  obtain ⟨_, s0, _⟩ := matrix_view a d0 d1 n n hn hn hlay hwf hext
  obtain ⟨cmT, cmD⟩ := colMajor_view hn hn hlay hwf hext
  have hw : ∀ k : Int, w.base + k = w.addr [k] := fun k => (vector_view hn hwl hwwf hwe hws k).symm
  constructor
  · -- LAPACK sees `aᵀ` and is told the opposite triangle
    intro h1 i k hi hk
    simp only [syevCall, if_pos h1, Option.some.injEq] at hc
    subst hc
    have := syevPost_symOf hpost uplo.flip (by cases uplo <;> simp [Filling.flip]) i k (s0 ▸ hi) (s0 ▸ hk)
    simp only [cmT h1, hw, s0] at this
    rw [← this]
    exact sumTo_congr _ fun j _ => congrArg (· * _) (symOf_flip uplo A0 i j).symm
  · intro h1 i k hi hk
    by_cases h0 : a.stride0 = 1
    · simp only [syevCall, if_neg h1, if_pos h0, Option.some.injEq] at hc
      subst hc
      have := syevPost_symOf hpost uplo (by cases uplo <;> simp) i k (s0 ▸ hi) (s0 ▸ hk)
      simp only [cmD h0, hw, s0] at this
      exact this
    · simp only [syevCall, if_neg h1, if_neg h0] at hc
      exact nomatch hc

end

/-! non-vacuity: a padded 3×3 row-major block and its transpose satisfy the hypotheses of `potrf_orientation`, and the two
    calls differ exactly by the flipped character and the same leading dimension -/
example :
    let A : View := ((⟨10, Layout.ofExts [⟨0, 4⟩, ⟨0, 5⟩]⟩ : View).sliced 0 3).paren [Arg.all, Arg.rng 0 3]
    A.exts = [⟨0, 3⟩, ⟨0, 3⟩] ∧ potrfAsserts A = true ∧ potrfAsserts A.rotated = true ∧
    potrfCall .upper A = ⟨'L', 3, 10, 5⟩ ∧ potrfCall .upper A.rotated = ⟨'U', 3, 10, 5⟩ := by
  decide +kernel

end C14
end Multi
