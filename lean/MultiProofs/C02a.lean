/-
  MultiProofs.C02a — array_iterator (begin()/end()) laws and the zero-based layout of elements ranges.
-/
import MultiProofs.C01

namespace Multi

theorem ArrIt.ext_eq {a b : ArrIt} (h1 : a.ptr = b.ptr) (h2 : a.stride = b.stride) (h3 : a.sub = b.sub) : a = b := by
  cases a; cases b; simp_all

theorem arrit_inc_dec (it : ArrIt) : it.inc.dec = it ∧ it.dec.inc = it :=
  ⟨ArrIt.ext_eq (Int.add_sub_cancel it.ptr it.stride) rfl rfl, ArrIt.ext_eq (Int.sub_add_cancel it.ptr it.stride) rfl rfl⟩

theorem arrit_add_sub (it : ArrIt) (n : Int) : (it.add n).sub' n = it ∧ (it.sub' n).add n = it :=
  ⟨ArrIt.ext_eq (Int.add_sub_cancel it.ptr _) rfl rfl, ArrIt.ext_eq (Int.sub_add_cancel it.ptr _) rfl rfl⟩

theorem arrit_add_add (it : ArrIt) (n m : Int) : (it.add n).add m = it.add (n + m) :=
  ArrIt.ext_eq ((Int.add_assoc _ _ _).trans (congrArg (it.ptr + ·) (Int.mul_add _ n m).symm)) rfl rfl

theorem arrit_diff_add (it : ArrIt) (n : Int) (hs : it.stride ≠ 0) : (it.add n).diff it = n := by
  simp only [ArrIt.diff, ArrIt.add]
  have : it.ptr + it.stride * n - it.ptr = it.stride * n := by omega
  rw [this]; exact Int.mul_tdiv_cancel_left _ hs

theorem arrit_diff_add2 (it : ArrIt) (n m : Int) (hs : it.stride ≠ 0) : (it.add n).diff (it.add m) = n - m := by
  simp only [ArrIt.diff, ArrIt.add]
  have : it.ptr + it.stride * n - (it.ptr + it.stride * m) = it.stride * (n - m) := by rw [Int.mul_sub]; omega
  rw [this]; exact Int.mul_tdiv_cancel_left _ hs

theorem arrit_inc_eq_add (it : ArrIt) : it.inc = it.add 1 ∧ it.dec = it.sub' 1 :=
  ⟨ArrIt.ext_eq (congrArg (it.ptr + ·) (Int.mul_one _).symm) rfl rfl,
    ArrIt.ext_eq (congrArg (it.ptr - ·) (Int.mul_one _).symm) rfl rfl⟩

/-! the zero-based layout copy held by `elements_range_t` -/

def Layout.zeroBased (l : Layout) : Layout := l.map fun d => { d with offset := 0 }

theorem reindex1_cons (d : Dim) (l : Layout) (i : Int) :
    Layout.reindex1 (d :: l) i = { d with offset := i * d.stride } :: l := rfl

theorem reindex_append (l x : Layout) (is : List Int) (h : is.length ≤ l.length) :
    Layout.reindex (l ++ x) is = Layout.reindex l is ++ x := by
  induction is generalizing l x with
  | nil => simp [Layout.reindex]
  | cons i rest ih =>
    cases l with
    | nil => simp at h
    | cons d l =>
      cases rest with
      | nil => simp [Layout.reindex, Layout.reindex1]
      | cons j rest' =>
        have hlen : (j :: rest').length ≤ l.length := by simp at h ⊢; omega
        simp only [Layout.reindex, List.cons_append, reindex1_cons, rotate_cons]
        generalize ({ d with offset := i * d.stride } : Dim) = d'
        rw [List.append_assoc, ih l (x ++ [d']) hlen, ih l [d'] hlen, ← List.append_assoc, unrotate_snoc, unrotate_snoc]
        rfl

theorem reindex_cons (d : Dim) (l : Layout) (i : Int) (rest : List Int) (h : rest.length ≤ l.length) :
    Layout.reindex (d :: l) (i :: rest) = { d with offset := i * d.stride } :: Layout.reindex l rest := by
  cases rest with
  | nil => simp [Layout.reindex, Layout.reindex1]
  | cons j rest' =>
    simp only [Layout.reindex, reindex1_cons, rotate_cons]
    rw [reindex_append l _ _ h, unrotate_snoc]

/-- `lyt.reindex(0, 0, ...)` zeroes every offset and changes nothing else -/
theorem reindex_zeros (l : Layout) : Layout.reindex l (List.replicate l.length 0) = Layout.zeroBased l := by
  induction l with
  | nil => simp [Layout.reindex, Layout.zeroBased]
  | cons d l ih =>
    simp only [List.length_cons, List.replicate_succ]
    rw [reindex_cons d l 0 _ (by simp), ih]
    simp [Layout.zeroBased]

theorem ofView_eq (v : View) : ElemRange.ofView v = ⟨v.base, Layout.zeroBased v.lay⟩ := by
  simp [ElemRange.ofView, reindex_zeros]

end Multi
