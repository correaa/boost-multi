/-
  MultiProofs.OwnReext — `reextent(x)` / `reextent(x, v)` on an lvalue, as coded, yields the documented value: extensions `x`,
  every element whose index tuple lies in both the old and the new extensions keeps its value, every other element is the fill value
  (or the value-initialised / indeterminate cell).  Helper lemmas for C06.
-/
import MultiProofs.OwnSlice

namespace Multi
namespace Own
open C02
variable {α : Type}

/-- the cell new elements get -/
def fillCell (cfg : Cfg α) : Option α → Cell α
  | some v => some v
  | none => initCell cfg

/-- **the documented value after `reextent`**: extensions `x` (collapsed); at every index tuple of the new extensions the old element
    if the tuple was inside the old extensions, the fill cell otherwise -/
def reextVal (cfg : Cfg α) (old : AbsArr α) (x : List Ext) (fill : Option α) : AbsArr α :=
  ⟨collapse x, (boxIndices (collapse x)).map fun idx =>
    if InBox old.exts idx then old.elems[(rowMajor old.exts idx).toNat]?.getD none else fillCell cfg fill⟩

theorem reextVal_at (cfg : Cfg α) (old : AbsArr α) (x : List Ext) (hx : ExtsOK x) (fill : Option α) {idx : List Int}
    (hidx : InBox (collapse x) idx) :
    (reextVal cfg old x fill).elems[(rowMajor (collapse x) idx).toNat]? =
      some (if InBox old.exts idx then old.elems[(rowMajor old.exts idx).toNat]?.getD none else fillCell cfg fill) := by
  unfold reextVal
  simp only [List.getElem?_map, boxIndices_at_rank (collapse_ok hx) hidx, Option.map_some]

/-- an array `a'` that has the value `reextent` documents (unchanged for the current extensions, `reextVal` otherwise), read element by
    element: extensions `x` (collapsed); an element inside the old extensions is the old one, any other is the fill cell -/
theorem reextSpec_at (cfg : Cfg α) {h h' : Heap α} {a a' : Arr} (hv : Valid h a) {x : List Ext} (hx : ExtsOK x) (fill : Option α)
    (habs : absArr h' a' = if Exts.eqv x a.exts = true then absArr h a else reextVal cfg (absArr h a) x fill) :
    a'.exts = collapse x ∧ ∀ idx, InBox (collapse x) idx → (cellsOf h' a')[(rowMajor (collapse x) idx).toNat]? =
      some (if InBox a.exts idx then (cellsOf h a)[(rowMajor a.exts idx).toNat]?.getD none else fillCell cfg fill) := by
  rw [show a'.exts = _ from congrArg AbsArr.exts habs, show cellsOf h' a' = _ from congrArg AbsArr.elems habs]
  by_cases he : Exts.eqv x a.exts = true
  · have hcx : collapse x = a.exts := hv.collapse_of_eqv he
    rw [if_pos he, hcx]
    refine ⟨rfl, fun idx hin => ?_⟩
    show (cellsOf h a)[(rowMajor a.exts idx).toNat]? = _
    rw [if_pos hin, List.getElem?_eq_getElem (readAt_valid hv hin).2]
    rfl
  · rw [if_neg he]
    exact ⟨rfl, fun idx hin => reextVal_at cfg _ x hx fill hin⟩

/-- the step of `reextent` that copies the common part of the old array `a` into the freshly initialised new one: afterwards the new array
    has the documented value -/
theorem copyCommon_outcome (cfg : Cfg α) {h h2 : Heap α} {a : Arr} (hv : Valid h a) {x : List Ext} (hx : ExtsOK x) (hlen : x.length = a.dim)
    (hD : a.dim ≠ 0) (fill : Option α) {p : Option BlockId}
    (ho2 : Outcome h h2 (fun _ => False) ⟨p, Layout.ofExts x⟩ ⟨collapse x, List.replicate (nElems x).toNat (fillCell cfg fill)⟩) :
    Outcome h
      (if Exts.numElements (Exts.inter a.exts (Layout.ofExts x).exts) = 0 then h2
        else copyElems h2 a.base (applyExts a.view (Exts.inter a.exts (Layout.ofExts x).exts)) p
          (applyExts (⟨p, Layout.ofExts x⟩ : Arr).view (Exts.inter a.exts (Layout.ofExts x).exts)))
      (fun _ => False) ⟨p, Layout.ofExts x⟩ (reextVal cfg (absArr h a) x fill) := by
  have htx : (⟨p, Layout.ofExts x⟩ : Arr).exts = collapse x := ofExts_exts hx
  have htn : (⟨p, Layout.ofExts x⟩ : Arr).numElements = nElems x := ofExts_numElements hx
  have hXok : ExtsOK (collapse x) := collapse_ok hx
  have hlen2 : a.exts.length = (Layout.ofExts x).exts.length := by rw [exts_length, ofExts_exts hx, collapse_length, hlen]
  obtain ⟨is, his⟩ : ∃ is, is = Exts.inter a.exts (Layout.ofExts x).exts := ⟨_, rfl⟩
  rw [← his]
  have hisok : ExtsOK is := his ▸ inter_ok _ _
  have hbox : ∀ idx, InBox is idx ↔ InBox a.exts idx ∧ InBox (collapse x) idx := fun idx => by
    rw [his, ← ofExts_exts hx]; exact inBox_inter _ _ idx hlen2
  by_cases hz : Exts.numElements is = 0
  · -- nothing in common: every element is the fill cell
    rw [if_pos hz]
    have hconst : ∀ idx ∈ boxIndices (collapse x), (if InBox (absArr h a).exts idx then
        (absArr h a).elems[(rowMajor (absArr h a).exts idx).toNat]?.getD none else fillCell cfg fill) = fillCell cfg fill :=
      fun idx hidx => if_neg fun hia => nElems_ne_zero_of_inBox _ _ ((hbox idx).mpr ⟨hia, (mem_boxIndices _ _).mp hidx⟩)
        (exts_numElements_eq is ▸ hz)
    unfold reextVal
    rw [List.map_congr_left hconst, List.map_const', boxIndices_length_eq _ hXok, nElems_collapse]
    exact ho2
  · rw [if_neg hz]
    have his0 : nElems is ≠ 0 := exts_numElements_eq is ▸ hz
    have hpos := pos_of_nElems_ne_zero _ hisok his0
    have hislen : is.length = a.exts.length := his ▸ inter_length _ _ hlen2
    have hisne : is ≠ [] := fun e => hD (by rw [← exts_length, ← hislen, e]; rfl)
    obtain ⟨dom_s, dom_d⟩ := inter_inDomain a.exts (Layout.ofExts x).exts hlen2 (his ▸ hpos)
    rw [← his] at dom_s dom_d
    obtain ⟨va2, ca2⟩ := hv.frame ho2.frame (fun _ _ _ hf => hf)
    have vt2 := ho2.valid
    obtain ⟨ne_s, ad_s⟩ := slice_facts a.view va2.view_wf is hislen hisne hpos dom_s
    obtain ⟨ne_d, ad_d⟩ := slice_facts (⟨p, Layout.ofExts x⟩ : Arr).view vt2.view_wf is (hislen.trans hlen2) hisne hpos dom_d
    -- a common tuple: both arrays have elements, in different blocks
    have hJ0 := (hbox _).mp (inBox_firsts_of_pos is hisok (by have := nElems_nonneg hisok; omega))
    have han : a.numElements ≠ 0 := hv.nElems_exts ▸ nElems_ne_zero_of_inBox _ _ hJ0.1
    have htn0 : (⟨p, Layout.ofExts x⟩ : Arr).numElements ≠ 0 := by
      rw [htn, ← nElems_collapse]; exact nElems_ne_zero_of_inBox _ _ hJ0.2
    obtain ⟨s, hsb, hsl, _⟩ := va2.block han
    have hst : (⟨p, Layout.ofExts x⟩ : Arr).base ≠ some s := by
      intro e
      obtain ⟨s', hs', hl', _⟩ := hv.block han
      obtain rfl : s' = s := Option.some.inj (hs'.symm.trans hsb)
      exact absurd hl'.lt (Nat.not_lt.mpr ((ho2.own htn0 s' e).resolve_left id))
    have hind : ∀ J ∈ boxIndices is, InBox a.exts J ∧ InBox (collapse x) J := fun J hJ => (hbox J).mp ((mem_boxIndices _ _).mp hJ)
    have := ho2.scatter htn0 hsl hst (boxIndices is) (boxIndices_nodup _) (fun J hJ => htx ▸ (hind J hJ).2) a.view.addr
      (fun J hJ => va2.addr_pos (hind J hJ).1) (fun idx => InBox a.exts idx)
      (fun idx hidx => by rw [mem_boxIndices, hbox]; exact ⟨And.left, fun hia => ⟨hia, htx ▸ hidx⟩⟩)
    rw [htx, List.map_congr_left (g := fun idx => if InBox (absArr h a).exts idx then
        (absArr h a).elems[(rowMajor (absArr h a).exts idx).toNat]?.getD none else fillCell cfg fill) (fun idx hidx => by
      by_cases hia : InBox a.exts idx
      · rw [if_pos hia, (va2.addr hia).1, ca2]; exact (if_pos hia).symm
      · rw [if_neg hia, List.getElem?_replicate, if_pos (nElems_collapse x ▸ rank_lt ((mem_boxIndices _ _).mp hidx))]
        exact (if_neg hia).symm)] at this
    rw [hsb, copyElems_eq h2 _ _ _ _ ne_s ne_d (boxIndices is) a.view.addr (⟨p, Layout.ofExts x⟩ : Arr).view.addr ad_s ad_d]
    exact this

/-- **`reextent` on an lvalue, as coded, yields the documented value** (nothing at all happens for the current extensions) and touches
    nothing but the own block -/
theorem reextent_outcome (cfg : Cfg α) {h : Heap α} {a : Arr} (hv : Valid h a) {x : List Ext} (hx : ExtsOK x)
    (hlen : x.length = a.dim) (hD : a.dim ≠ 0) (fill : Option α) :
    Outcome h (reextent cfg h a x fill).1 (ownBlock a) (reextent cfg h a x fill).2
      (if Exts.eqv x a.exts = true then absArr h a else reextVal cfg (absArr h a) x fill) := by
  by_cases he : Exts.eqv x a.exts = true
  · rw [if_pos he, reextent_same cfg h a x fill he]
    exact Outcome.same hv
  · rw [if_neg he]
    unfold reextent
    simp only [he]
    refine outcome_then_dealloc hv (copyCommon_outcome cfg hv hx hlen hD fill ?_)
    -- the freshly initialised block
    cases fill with
    | none => exact extsCtor_outcome cfg h hx
    | some v => exact fillCtor_outcome h hx v

end Own
end Multi
