/-
  MultiProofs.OwnScatter — the element-wise copy through two address lists (`Heap.copyAddrs`, what `Own.copyElems` /
  `Own.assignElems` execute) as a map on cells: with pairwise distinct destination addresses, every destination cell gets the
  cell of its source address and every other cell of the destination block is unchanged.  Helper lemmas for C04 / C06.
-/
import MultiProofs.OwnObs

namespace Multi
namespace Own
variable {α β : Type}

/-- `copyAddrs` between two different live blocks with in-range addresses is a `setMany` on the destination block -/
theorem copyAddrs_live {ι : Type} {h : Heap α} {s d : Nat} {scs dcs : List (Cell α)} (hs : Live h s scs) (hd : Live h d dcs)
    (hne : s ≠ d) (L : List ι) (S D : ι → Int) (hS : ∀ x ∈ L, 0 ≤ S x ∧ (S x).toNat < scs.length)
    (hD : ∀ x ∈ L, 0 ≤ D x ∧ (D x).toNat < dcs.length) :
    h.copyAddrs (some s) (L.map S) (some d) (L.map D)
      = h.setBlock d (some (setMany dcs (L.map fun x => ((D x).toNat, scs[(S x).toNat]?.getD none)))) := by
  unfold Heap.copyAddrs
  rw [List.zip_map', List.foldl_map]
  exact foldl_setBlock _ _ _ L h dcs hd (fun cs' x hx hlen =>
    (copyCell_live (hs.setBlock_other hne.symm _) (hd.setBlock_same cs') (hS x hx).1 (hS x hx).2 (hD x hx).1
      (hlen ▸ (hD x hx).2)).trans (Heap.setBlock_setBlock ..))

/-- pointwise description of `setMany` on an injectively indexed family -/
theorem setMany_family {ι : Type} (L : List ι) (P : ι → Nat) (V : ι → β) (cs : List β) (hnd : L.Nodup)
    (hinj : ∀ i ∈ L, ∀ j ∈ L, P i = P j → i = j) (hlt : ∀ i ∈ L, P i < cs.length) :
    (∀ J ∈ L, (setMany cs (L.map fun J => (P J, V J)))[P J]? = some (V J)) ∧
    (∀ j, (∀ J ∈ L, P J ≠ j) → (setMany cs (L.map fun J => (P J, V J)))[j]? = cs[j]?) := by
  have hfst : (L.map fun J => (P J, V J)).map Prod.fst = L.map P := by simp [List.map_map, Function.comp_def]
  constructor
  · intro J hJ
    apply getElem?_setMany_mem
    · rw [hfst]; exact nodup_map_of_inj_on L P hnd hinj
    · exact List.mem_map.mpr ⟨J, hJ, rfl⟩
    · exact hlt J hJ
  · intro j hj
    apply getElem?_setMany_not_mem
    rw [hfst]
    intro hm
    obtain ⟨J, hJ, e⟩ := List.mem_map.mp hm
    exact hj J hJ e

/-- **scatter by rank**: storing `V J` at the row-major rank of every tuple `J` of a duplicate-free list `L` of tuples of the box `es`
    leaves, in canonical order, `V` at the tuples of `L` (those with `Q`) and the old cell everywhere else -/
theorem setMany_rank {es : List Ext} (hok : ExtsOK es) (cs : List β) (hlen : cs.length = (nElems es).toNat)
    (L : List (List Int)) (hnd : L.Nodup) (hin : ∀ J ∈ L, InBox es J) (P : List Int → Nat)
    (hP : ∀ J ∈ L, P J = (rowMajor es J).toNat) (V : List Int → β) (Q : List Int → Prop) [DecidablePred Q]
    (hQ : ∀ idx, InBox es idx → (idx ∈ L ↔ Q idx)) (dflt : β) :
    setMany cs (L.map fun J => (P J, V J)) =
      (boxIndices es).map fun idx => if Q idx then V idx else cs[(rowMajor es idx).toNat]?.getD dflt := by
  rw [List.map_congr_left (g := fun J => ((rowMajor es J).toNat, V J)) (fun J hJ => by rw [hP J hJ])]
  obtain ⟨hmem, hnot⟩ := setMany_family L (fun J => (rowMajor es J).toNat) V cs hnd
    (fun i hi j hj => rank_inj (hin i hi) (hin j hj)) (fun i hi => hlen ▸ rank_lt (hin i hi))
  rw [list_eq_range_map (setMany cs _) dflt, length_setMany, hlen, ← boxIndices_rank es hok, List.map_map]
  apply List.map_congr_left
  intro idx hidx
  have hb := (mem_boxIndices _ _).mp hidx
  simp only [Function.comp]
  by_cases hq : Q idx
  · rw [if_pos hq, hmem idx ((hQ idx hb).mpr hq)]; rfl
  · rw [if_neg hq, hnot _ (fun J hJ e => hq ((hQ idx hb).mp (rank_inj (hin J hJ) hb e ▸ hJ)))]

/-- **scatter into the resulting array**: copying the cells `S J` of another live block `s`, for `J` running through a duplicate-free
    list `L` of index tuples of the array, to the array's elements at these tuples gives the array, in canonical order, the copied cell at
    the tuples of `L` (those with `Q`) and leaves its other elements alone -/
theorem Outcome.scatter {h h1 : Heap α} {M : Nat → Prop} {t : Arr} {val : AbsArr α} (ho : Outcome h h1 M t val)
    (hnt : t.numElements ≠ 0) {s : Nat} {scs : List (Cell α)} (hs : Live h1 s scs) (hst : t.base ≠ some s)
    (L : List (List Int)) (hnd : L.Nodup) (hin : ∀ J ∈ L, InBox t.exts J) (S : List Int → Int)
    (hS : ∀ J ∈ L, 0 ≤ S J ∧ (S J).toNat < scs.length) (Q : List Int → Prop) [DecidablePred Q]
    (hQ : ∀ idx, InBox t.exts idx → (idx ∈ L ↔ Q idx)) :
    Outcome h (h1.copyAddrs (some s) (L.map S) t.base (L.map t.view.addr)) M t
      ⟨val.exts, (boxIndices t.exts).map fun idx =>
        if Q idx then scs[(S idx).toNat]?.getD none else val.elems[(rowMajor t.exts idx).toNat]?.getD none⟩ := by
  obtain rfl := ho.abs
  have hv := ho.valid
  obtain ⟨d, hd, hl, hlen⟩ := hv.block hnt
  rw [hd, copyAddrs_live hs hl (fun e => hst (e ▸ hd)) L S t.view.addr hS (fun J hJ => hv.addr_pos (hin J hJ)),
    setMany_rank hv.exts_ok _ (hlen.trans (by rw [hv.nElems_exts])) L hnd hin (fun J => (t.view.addr J).toNat)
      (fun J hJ => by rw [(hv.addr (hin J hJ)).1]) (fun J => scs[(S J).toNat]?.getD none) Q hQ none]
  exact ho.setBlock hd hnt _ (by rw [List.length_map, boxIndices_length_eq _ hv.exts_ok, hv.nElems_exts])

end Own
end Multi
