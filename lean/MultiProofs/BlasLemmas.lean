/-
  MultiProofs.BlasLemmas — what the BLAS proofs share: assertions in front of a call, the flag characters of the
  enumerations, `legalLd`, arithmetic of column-major blocks and strided vectors, finite sums, `cjIf`.
-/
import MultiModel.Blas

namespace Multi.Blas
variable {R : Type}

theorem cmIndex_hit {x ld m n i j : Int} (hi0 : 0 ≤ i) (him : i < m) (hj0 : 0 ≤ j) (hjn : j < n) (hld : m ≤ ld) :
    cmIndex x ld m n (x + i + j * ld) = some (i, j) := by
  have hldpos : 0 < ld := by omega
  have hd : x + i + j * ld - x = i + j * ld := by omega
  have h1 : (i + j * ld) % ld = i := by
    rw [Int.add_mul_emod_self_right]; exact Int.emod_eq_of_lt hi0 (by omega)
  have h2 : (i + j * ld) / ld = j := by
    rw [Int.add_mul_ediv_right _ _ (by omega), Int.ediv_eq_zero_of_lt hi0 (by omega)]; omega
  have h3 : 0 ≤ i + j * ld := by
    have : 0 ≤ j * ld := Int.mul_nonneg hj0 (by omega)
    omega
  unfold cmIndex
  simp only [hd, h1, h2]
  rw [if_pos ⟨h3, hldpos, him, hjn⟩]

theorem cmIndex_some {x ld m n addr i j : Int} (h : cmIndex x ld m n addr = some (i, j)) :
    addr = x + i + j * ld ∧ 0 ≤ i ∧ i < m ∧ 0 ≤ j ∧ j < n := by
  unfold cmIndex at h
  by_cases hc : 0 ≤ addr - x ∧ 0 < ld ∧ (addr - x) % ld < m ∧ (addr - x) / ld < n
  · simp only [if_pos hc] at h
    have hi : (addr - x) % ld = i := by injection h with h; injection h
    have hj : (addr - x) / ld = j := by injection h with h; injection h
    obtain ⟨h0, hld, hm, hn⟩ := hc
    have hdm := Int.mul_ediv_add_emod (addr - x) ld
    have hnn : 0 ≤ (addr - x) % ld := Int.emod_nonneg _ (by omega)
    have hjj : 0 ≤ (addr - x) / ld := Int.ediv_nonneg h0 (by omega)
    subst hi; subst hj
    refine ⟨?_, hnn, hm, hjj, hn⟩
    have : ld * ((addr - x) / ld) = (addr - x) / ld * ld := Int.mul_comm _ _
    omega
  · simp only [if_neg hc] at h; cases h

/-- a front end or chain that issues a call has passed the assertion in front of it -/
theorem call_of_assert {c : Prop} [Decidable c] {k t : Nat} {X : Outcome R} {cl : Call R}
    (h : (if c then .assertFail k else X) = .call t cl) : X = .call t cl := by
  split at h
  · cases h
  · exact h

theorem Side.char_legal (s : Side) : s.char = 'L' ∨ s.char = 'R' := by cases s <;> decide

theorem Filling.char_legal (f : Filling) : f.char = 'U' ∨ f.char = 'L' := by cases f <;> decide

theorem Diag.char_legal (d : Diag) : d.char = 'U' ∨ d.char = 'N' := by cases d <;> decide

theorem Side.swap_eq_left {s : Side} (h : s.swap = .left) : s = .right := by cases s <;> first | rfl | cases h

theorem Side.swap_eq_right {s : Side} (h : s.swap = .right) : s = .left := by cases s <;> first | rfl | cases h

theorem Filling.flip_flip (f : Filling) : f.flip.flip = f := by cases f <;> rfl

theorem le_legalLd (s r : Int) : r ≤ legalLd s r := Int.le_max_right s r

theorem one_le_legalLd {s : Int} (r : Int) (h : 1 ≤ s) : 1 ≤ legalLd s r := Int.le_trans h (Int.le_max_left s r)

theorem legalLd_eq {s r : Int} (h : r ≤ s) : legalLd s r = s := Int.max_eq_left h

/-- the stride `s` of a block of `r` rows is its legal leading dimension unless the other extent `x` is at most 1 -/
theorem legalLd_fit {s r x : Int} (h : r ≤ s ∨ x ≤ 1) : x ≤ 1 ∨ s = legalLd s r :=
  h.elim (fun h => .inr (legalLd_eq h).symm) .inl

theorem vecIndex_hit {x inc n i : Int} (hi0 : 0 ≤ i) (hin : i < n) (hinc : 0 < inc) :
    vecIndex x inc n (x + i * inc) = some i := by
  have hd : x + i * inc - x = i * inc := by omega
  have h1 : (i * inc) % inc = 0 := Int.mul_emod_left _ _
  have h2 : (i * inc) / inc = i := Int.mul_ediv_cancel _ (by omega)
  have h3 : 0 ≤ i * inc := Int.mul_nonneg hi0 (by omega)
  unfold vecIndex
  simp only [hd, h1, h2]
  rw [if_pos ⟨h3, hinc, trivial, hin⟩]

theorem vecIndex_some {x inc n addr i : Int} (h : vecIndex x inc n addr = some i) :
    addr = x + i * inc ∧ 0 ≤ i ∧ i < n := by
  unfold vecIndex at h
  by_cases hc : 0 ≤ addr - x ∧ 0 < inc ∧ (addr - x) % inc = 0 ∧ (addr - x) / inc < n
  · simp only [if_pos hc] at h
    have hi : (addr - x) / inc = i := by injection h
    obtain ⟨h0, hinc, hm, hn⟩ := hc
    have hdm := Int.mul_ediv_add_emod (addr - x) inc
    have hjj : 0 ≤ (addr - x) / inc := Int.ediv_nonneg h0 (by omega)
    subst hi
    refine ⟨?_, hjj, hn⟩
    have : inc * ((addr - x) / inc) = (addr - x) / inc * inc := Int.mul_comm _ _
    omega
  · simp only [if_neg hc] at h; cases h

theorem vecIndex_none {x inc n addr : Int} (h : ¬ ∃ i : Int, 0 ≤ i ∧ i < n ∧ addr = x + i * inc) : vecIndex x inc n addr = none := by
  cases hv : vecIndex x inc n addr with
  | none => rfl
  | some i => exact absurd ⟨i, (vecIndex_some hv).2.1, (vecIndex_some hv).2.2, (vecIndex_some hv).1⟩ h

theorem sumTo_congr [Add R] [Zero R] {k : Nat} {f g : Int → R} (h : ∀ l : Int, 0 ≤ l → l < Int.ofNat k → f l = g l) :
    sumTo k f = sumTo k g := by
  induction k with
  | zero => rfl
  | succ n ih =>
    unfold sumTo
    rw [ih (fun l h0 hl => h l h0 (by simp at hl ⊢; omega)), h (Int.ofNat n) (by simp) (by simp; omega)]

theorem sumZ_congr [Add R] [Zero R] {k : Int} {f g : Int → R} (h : ∀ l : Int, 0 ≤ l → l < k → f l = g l) :
    sumZ k f = sumZ k g := by
  unfold sumZ
  apply sumTo_congr
  intro l h0 hl
  apply h l h0
  have : (Int.ofNat k.toNat : Int) = max k 0 := by simp
  omega

theorem conj_sumTo [CRing R] (k : Nat) (f : Int → R) :
    CRing.conj (sumTo k f) = sumTo k (fun l => CRing.conj (f l)) := by
  induction k with
  | zero => exact CRing.conj_zero
  | succ n ih => unfold sumTo; rw [CRing.conj_add, ih]

theorem conj_sumZ [CRing R] (k : Int) (f : Int → R) :
    CRing.conj (sumZ k f) = sumZ k (fun l => CRing.conj (f l)) := conj_sumTo _ _

theorem mul_zero' [CRing R] (a : R) : a * 0 = 0 := by rw [CRing.mul_comm, CRing.zero_mul]

theorem cjIf_false [CRing R] (x : R) : cjIf false x = x := rfl

theorem cjIf_cjIf [CRing R] (b : Bool) (x : R) : cjIf b (cjIf b x) = x := by
  cases b
  · rfl
  · exact CRing.conj_conj x

end Multi.Blas
