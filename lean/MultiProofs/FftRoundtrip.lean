/-
  MultiProofs.FftRoundtrip — the algebra behind "forward followed by backward multiplies by the number of transformed
  points": finite sums over a commutative ring (core Lean has no big operators) and the separable inversion argument.
-/
import MultiProofs.FftSpec

namespace Multi
open Lean.Grind

section
variable {R : Type} [CommRing R]

theorem sumTo_zero (n : Nat) : sumTo n (fun _ => (0 : R)) = 0 := by
  induction n with
  | zero => rfl
  | succ n ih => simp only [sumTo, ih]; exact Semiring.add_zero 0

theorem sumTo_add (n : Nat) (f g : Nat → R) : sumTo n (fun k => f k + g k) = sumTo n f + sumTo n g := by
  induction n with
  | zero => exact (Semiring.add_zero 0).symm
  | succ n ih => simp only [sumTo, ih]; grind

theorem sumTo_mul_left (n : Nat) (c : R) (f : Nat → R) : sumTo n (fun k => c * f k) = c * sumTo n f := by
  induction n with
  | zero => exact (Semiring.mul_zero c).symm
  | succ n ih => simp only [sumTo, ih]; exact (Semiring.left_distrib _ _ _).symm

theorem sumTo_mul_right (n : Nat) (c : R) (f : Nat → R) : sumTo n (fun k => f k * c) = sumTo n f * c := by
  induction n with
  | zero => exact (Semiring.zero_mul c).symm
  | succ n ih => simp only [sumTo, ih]; exact (Semiring.right_distrib _ _ _).symm

theorem sumTo_comm (n m : Nat) (f : Nat → Nat → R) :
    sumTo n (fun i => sumTo m (fun j => f i j)) = sumTo m (fun j => sumTo n (fun i => f i j)) := by
  induction n with
  | zero => simp only [sumTo]; exact (sumTo_zero m).symm
  | succ n ih => simp only [sumTo, ih]; rw [← sumTo_add]

theorem sumTo_delta (n : Nat) (j : Nat) (hj : j < n) (c : R) (y : Nat → R) :
    sumTo n (fun k => (if j = k then c else 0) * y k) = c * y j := by
  induction n with
  | zero => omega
  | succ n ih =>
    simp only [sumTo]
    by_cases h : j = n
    · subst h
      rw [sumTo_congr (g := fun _ => (0 : R)) j fun k hk => by rw [if_neg (by omega), Semiring.zero_mul],
        sumTo_zero, if_pos rfl, AddCommMonoid.zero_add]
    · rw [ih (by omega), if_neg h, Semiring.zero_mul, Semiring.add_zero]

theorem sumBox_zero (Ns : List Int) : sumBox Ns (fun _ => (0 : R)) = 0 := by
  induction Ns with
  | nil => rfl
  | cons N Ns ih => simp only [sumBox, ih]; exact sumTo_zero _

theorem sumBox_add (Ns : List Int) (f g : List Int → R) : sumBox Ns (fun r => f r + g r) = sumBox Ns f + sumBox Ns g := by
  induction Ns generalizing f g with
  | nil => rfl
  | cons N Ns ih => simp only [sumBox, ih]; rw [sumTo_add]

theorem sumBox_mul_left (Ns : List Int) (c : R) (f : List Int → R) : sumBox Ns (fun r => c * f r) = c * sumBox Ns f := by
  induction Ns generalizing f with
  | nil => rfl
  | cons N Ns ih => simp only [sumBox, ih]; rw [sumTo_mul_left]

theorem sumBox_mul_right (Ns : List Int) (c : R) (f : List Int → R) : sumBox Ns (fun r => f r * c) = sumBox Ns f * c := by
  induction Ns generalizing f with
  | nil => rfl
  | cons N Ns ih => simp only [sumBox, ih]; rw [sumTo_mul_right]

theorem sumBox_sumTo (Ns : List Int) (n : Nat) (g : List Int → Nat → R) :
    sumBox Ns (fun r => sumTo n (fun k => g r k)) = sumTo n (fun k => sumBox Ns (fun r => g r k)) := by
  induction n with
  | zero => simp only [sumTo]; exact sumBox_zero Ns
  | succ n ih => simp only [sumTo]; rw [sumBox_add, ih]

theorem sumTo_congr' {f g : Nat → R} (n : Nat) (h : ∀ k, k < n → f k = g k) : sumTo n f = sumTo n g := sumTo_congr n h

/-- `N` as an element of `R`: `1 + … + 1` -/
def cnt (N : Int) : R := sumTo N.toNat (fun _ => (1 : R))

/-- number of points of a box as an element of `R` -/
def cntBox : List Int → R
  | [] => 1
  | N :: Ns => cnt N * cntBox Ns

/-- orthogonality of the twiddle family for size `N` and sign `s`:
    `Σ_{k<N} ω(N, s·k·n)·ω(N, −s·j·k) = N·δ_{jn}` — true of `ω N k = exp(2πi k/N)`. -/
def Orth (ω : Int → Int → R) (s N : Int) : Prop :=
  ∀ j n : Nat, (j : Int) < N → (n : Int) < N →
    sumTo N.toNat (fun k => ω N (s * Int.ofNat k * Int.ofNat n) * ω N (-s * Int.ofNat j * Int.ofNat k)) = if j = n then cnt N else 0

/-- one dimension of the inversion, with the leading twiddles `W`, `W'` and the remaining ones `T`, `T'` abstract:
    regroup each term, invert the remaining dimensions (`ih`), exchange the two leading sums, apply orthogonality (`ho`) -/
theorem inversion_step (N : Nat) (Ns : List Int) (W : Nat → Nat → R) (W' : Nat → R) (T : List Int → List Int → R)
    (T' : List Int → R) (X : List Int → R) (j : Nat) (hj : j < N) (j' : List Int) (c C : R)
    (ho : ∀ n0, n0 < N → sumTo N (fun k0 => W k0 n0 * W' k0) = if j = n0 then c else 0)
    (ih : ∀ Y : List Int → R, sumBox Ns (fun k' => sumBox Ns (fun n' => Y n' * T k' n') * T' k') = C * Y j') :
    sumTo N (fun k0 => sumBox Ns fun k' =>
      (sumTo N fun n0 => sumBox Ns fun n' => X (Int.ofNat n0 :: n') * (W k0 n0 * T k' n')) * (W' k0 * T' k'))
      = c * C * X (Int.ofNat j :: j') := by
  calc _ = sumTo N fun k0 => sumTo N fun n0 => (W k0 n0 * W' k0) * (C * X (Int.ofNat n0 :: j')) :=
        sumTo_congr _ fun k0 _ => by
          refine (sumBox_congr Ns (g := fun k' => sumTo N fun n0 =>
            (W k0 n0 * W' k0) * (sumBox Ns (fun n' => X (Int.ofNat n0 :: n') * T k' n') * T' k')) fun k' _ => ?_).trans ?_
          · rw [← sumTo_mul_right]
            refine sumTo_congr _ fun n0 _ => ?_
            rw [sumBox_congr Ns (g := fun n' => W k0 n0 * (X (Int.ofNat n0 :: n') * T k' n')) fun n' _ => by
              rw [← Semiring.mul_assoc, CommRing.mul_comm (X _), Semiring.mul_assoc], sumBox_mul_left]
            -- (w·S)·(w'·t') = (w·w')·(S·t')
            rw [Semiring.mul_assoc, ← Semiring.mul_assoc (sumBox _ _), CommRing.mul_comm (sumBox _ _),
              Semiring.mul_assoc (W' k0), ← Semiring.mul_assoc (W k0 n0)]
          · rw [sumBox_sumTo]
            exact sumTo_congr _ fun n0 _ => by rw [sumBox_mul_left, ih]
    _ = sumTo N fun n0 => (if j = n0 then c else 0) * (C * X (Int.ofNat n0 :: j')) := by
        rw [sumTo_comm]
        exact sumTo_congr _ fun n0 h => by rw [sumTo_mul_right, ho n0 h]
    _ = _ := by rw [sumTo_delta N j hj, Semiring.mul_assoc]

/-- **algebraic core**: the unnormalised DFT with sign `−s` inverts the one with sign `s` up to the number of points -/
theorem dft_inversion (ω : Int → Int → R) (s : Int) (Ns : List Int) (horth : ∀ N ∈ Ns, Orth ω s N)
    (X : List Int → R) (j : List Int) (hj : InRange Ns j) :
    sumBox Ns (fun k => sumBox Ns (fun n => X n * twiddle ω s Ns k n) * twiddle ω (-s) Ns j k) = cntBox Ns * X j := by
  induction Ns generalizing X j with
  | nil =>
    cases j with
    | nil =>
      show X [] * 1 * 1 = 1 * X []
      rw [Semiring.mul_one, Semiring.mul_one, Semiring.one_mul]
    | cons _ _ => exact hj.elim
  | cons N Ns ih =>
    cases j with
    | nil => exact hj.elim
    | cons j0 j' =>
      obtain ⟨⟨hj0, hj1⟩, hj'⟩ := hj
      obtain ⟨jn, rfl⟩ : ∃ jn : Nat, j0 = Int.ofNat jn := ⟨j0.toNat, (Int.toNat_of_nonneg hj0).symm⟩
      exact inversion_step N.toNat Ns (fun k0 n0 => ω N (s * Int.ofNat k0 * Int.ofNat n0))
        (fun k0 => ω N (-s * Int.ofNat jn * Int.ofNat k0)) (twiddle ω s Ns) (twiddle ω (-s) Ns j') X jn
        (Int.lt_toNat.mpr hj1) j' (cnt N) (cntBox Ns)
        (fun n0 hn0 => horth N (List.mem_cons_self) jn n0 hj1 (Int.lt_toNat.mp hn0))
        (fun Y => ih (fun M hM => horth M (List.mem_cons_of_mem _ hM)) Y j' hj')
end
end Multi
