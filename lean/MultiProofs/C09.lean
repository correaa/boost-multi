/-
  C09 — Failures (allocation or element exceptions) leave no leak and valid arrays.

  The fault parameter of the model: with `fuel = some k` the k-th fallible step (allocation,
  element construction, element assignment) of the history throws; unwinding is a function (the handlers of the
  uninitialized algorithms destroy what they built and rethrow; a constructor body that throws does not run
  `~static_array`; an exception leaving a `noexcept` function is `Res.term`).

  THE FULL STATEMENT is `FaultSafe c`:

      for every pool size, every history of operations and every injection point k:  the run never calls std::terminate
      and never becomes undefined (each exception reaches the caller), and the state at the end is `Good` —
      every live array valid (its extents backed by exactly one outstanding block of that size with all cells alive),
      nothing leaked (every outstanding block has exactly one owner, no live object in a returned block), nothing destroyed or
      deallocated twice (that would be `ub`).

  Since the history is arbitrary this covers the state right after the throwing operation and after every later one.

  `FaultSafe` is FALSE for the code as it stood (`finding_F6_…`, `finding_F7_…`, `finding_F8_…`: each for the tree without
  that one repair) and — because of finding T1, `finding_T1_static_move_terminates` — even for the repaired tree.  What is
  proved, for all configurations, pools, histories and injection points (no enumeration): `fault_safe_partial`,
  `fault_safe_fixed`, `fault_step`; and `no_alloc_when_not_needed`.
-/
import MultiProofs.LedgerLog

namespace Multi
namespace C09
open Ledger

/-- THE FULL STATEMENT of C09 for configuration `c` (see the header) -/
def FaultSafe (c : Cfg) : Prop :=
  ∀ (p : Nat) (ops : List Op) (k : Nat), ∃ s', runHist c ops (initSt p (some k)) = some s' ∧ Good c s'

/-- one operation from a good state, with any fuel: it returns or throws — it neither terminates nor becomes undefined — and
    the state is good again (every array valid, nothing leaked, nothing destroyed or deallocated twice) -/
theorem fault_step (c : Cfg) (hok : c.OK) (op : Op) (s : St) (hG : Good c s) (happ : op.applicable c s = true)
    (hfx : op.fixedIn c = true) (hns : op.isSaMove = false) :
    (∃ s', (op.run c s = .ok () s' ∨ op.run c s = .threw s') ∧ Good c s' ∧ s'.arrs.length = s.arrs.length) := by
  have h := run_spec c hok op s hG happ hfx
  unfold OpSpec at h
  revert h
  cases op.run c s with
  | ok u s' => exact fun h => ⟨s', Or.inl rfl, h.1, h.2.2.1⟩
  | threw s' => exact fun h => ⟨s', Or.inr rfl, h.2.2, h.2.1⟩
  | term s' => exact fun h => absurd (hns ▸ h.2) (by decide)
  | ub s' => exact False.elim

/-- histories from any good state, any fuel -/
theorem fault_history (c : Cfg) (hok : c.OK) (ops : List Op)
    (hops : ∀ op ∈ ops, op.fixedIn c = true ∧ op.isSaMove = false) :
    ∀ (s : St), Good c s → ∃ s', runHist c ops s = some s' ∧ Good c s' := by
  refine runHist_invariant (P := Good c) ?_
  intro op ho s hG happ
  obtain ⟨s', hr, hG', _⟩ := fault_step c hok op s hG happ (hops op ho).1 (hops op ho).2
  rcases hr with hr | hr <;> rw [hr] <;> exact hG'

/-- FaultSafe restricted to the operations whose finding class is repaired in `c` (and without the static_array move
    constructor, finding T1).  Full statement: `FaultSafe c`, i.e. the same without the hypothesis `hops`. -/
theorem fault_safe_partial (c : Cfg) (hok : c.OK) (p : Nat) (ops : List Op) (k : Nat)
    (hops : ∀ op ∈ ops, op.fixedIn c = true ∧ op.isSaMove = false) :
    ∃ s', runHist c ops (initSt p (some k)) = some s' ∧ Good c s' :=
  fault_history c hok ops hops _ (good_init c p (some k))

/-- the tree with the repairs F6, F7, F8: every history that does not move-construct a static_array satisfies the full
    statement, for every injection point.  This includes the element-wise move path of fixes/F9.patch (move assignment /
    allocator-extended move construction between unequal allocators): a throwing element move or a failing allocation there
    leaves both arrays valid and nothing leaked. -/
theorem fault_safe_fixed (c : Cfg) (hok : c.OK) (hfix : c.Fixed) (p : Nat) (ops : List Op) (k : Nat)
    (hops : ∀ op ∈ ops, op.isSaMove = false) :
    ∃ s', runHist c ops (initSt p (some k)) = some s' ∧ Good c s' :=
  fault_safe_partial c hok p ops k (fun op ho => ⟨fixedIn_of_fixed hfix op, hops op ho⟩)

/-- decidable evidence that a run did not end well: it was cut short by std::terminate / undefined behaviour, or some
    outstanding block does not have exactly one owner, or some non-empty live array has no outstanding block of its size -/
def badEnd (r : Option St) : Bool :=
  match r with
  | none => true
  | some s =>
    ((List.range s.blocks.length).any fun b =>
      match s.blocks[b]? with
      | some blk => !blk.freed && owners s.arrs b != 1
      | none => false) ||
    ((List.range s.arrs.length).any fun i =>
      match s.arrs[i]? with
      | some (some a) =>
        decide (0 < a.n) && (match a.base with
          | none => true
          | some b => match s.blocks[b]? with
            | some blk => blk.freed || blk.size != a.n
            | none => true)
      | _ => false)

theorem badEnd_not_good (c : Cfg) (r : Option St) (h : badEnd r = true) : ¬ ∃ s', r = some s' ∧ Good c s' := by
  intro ⟨s', hr, hG⟩
  subst hr
  simp only [badEnd, Bool.or_eq_true, List.any_eq_true, List.mem_range] at h
  rcases h with ⟨b, _, hb⟩ | ⟨i, _, hi⟩
  · split at hb
    · rename_i blk hB
      simp only [Bool.and_eq_true, Bool.not_eq_true', bne_iff_ne, ne_eq] at hb
      exact hb.2 (hG.1.owned b blk hB hb.1)
    · cases hb
  · split at hi
    · rename_i a hA
      simp only [Bool.and_eq_true, decide_eq_true_eq] at hi
      obtain ⟨b, blk, hb, hB, hf, hsz, _⟩ := hG.1.valid i a hA hi.1
      have h2 := hi.2
      rw [hb] at h2
      simp only [hB, hf, hsz, bne_self_eq_false, Bool.or_self] at h2
      cases h2
    · cases hi

/-- the tree with every repair except `F6` / `F7` / `F8` -/
def cfgNo6 : Cfg := { dim := 1, fx6 := false, fx7 := true, fx8 := true, fx9 := true }
def cfgNo7 : Cfg := { dim := 1, fx6 := true, fx7 := false, fx8 := true, fx9 := true }
def cfgNo8 : Cfg := { dim := 1, fx6 := true, fx7 := true, fx8 := false, fx9 := true }
/-- the tree with every repair -/
def cfgAll : Cfg := { dim := 1, fx6 := true, fx7 := true, fx8 := true, fx9 := true }

/-- F6: `array<T,1> A({2}, v, alloc)` with the first element copy throwing (k = 1: the allocation succeeds): the exception
    reaches the caller, the object was never constructed, and block 0 stays allocated with no owner -/
theorem finding_F6_ctor_leaks_block : ¬ FaultSafe cfgNo6 := fun h =>
  badEnd_not_good cfgNo6 _ (by decide +kernel) (h 4 [.ctorFill 0 1 [⟨0, 2⟩]] 1)

/-- F7: `A = B` with different extents and the allocation throwing (k = 7): `A` keeps the extents of `B` over its old,
    already returned block -/
theorem finding_F7_copy_assign_dangling : ¬ FaultSafe cfgNo7 := fun h =>
  badEnd_not_good cfgNo7 _ (by decide +kernel)
    (h 4 [.ctorFill 0 1 [⟨0, 2⟩], .ctorFill 1 1 [⟨0, 3⟩], .assignCopy 0 1] 7)

/-- F7, continued: destroying that array destroys dead objects and deallocates a block it does not own — undefined -/
theorem finding_F7_double_free :
    runHist cfgNo7 [.ctorFill 0 1 [⟨0, 2⟩], .ctorFill 1 1 [⟨0, 3⟩], .assignCopy 0 1, .dtor 0] (initSt 4 (some 7)) = none := by
  decide +kernel

/-- F8: `A.reextent({3})` of a two-element array with the first element assignment throwing (k = 7): the new block 1 with
    its three live elements is lost -/
theorem finding_F8_reextent_leaks_tmp : ¬ FaultSafe cfgNo8 := fun h =>
  badEnd_not_good cfgNo8 _ (by decide +kernel) (h 4 [.ctorFill 0 1 [⟨0, 2⟩], .reextent 0 [⟨0, 3⟩]] 7)

/-- T1: `static_array t(std::move(s))` allocates inside a noexcept constructor; a failing allocation (k = 3) is
    std::terminate — in the repaired tree as well -/
theorem finding_T1_static_move_terminates : ¬ FaultSafe cfgAll := fun h =>
  badEnd_not_good cfgAll _ (by decide +kernel) (h 4 [.saMove 1 [⟨0, 2⟩]] 3)

/-- the same witnesses are harmless once the repair is in: the negations above are about the defects, not about the model -/
example : badEnd (runHist cfgAll [.ctorFill 0 1 [⟨0, 2⟩]] (initSt 4 (some 1))) = false := by decide +kernel
example : badEnd (runHist cfgAll [.ctorFill 0 1 [⟨0, 2⟩], .ctorFill 1 1 [⟨0, 3⟩], .assignCopy 0 1, .dtor 0]
    (initSt 4 (some 7))) = false := by decide +kernel
example : badEnd (runHist cfgAll [.ctorFill 0 1 [⟨0, 2⟩], .reextent 0 [⟨0, 3⟩]] (initSt 4 (some 7))) = false := by decide +kernel

/-- no allocation, whatever the outcome: swap, move construction, clear, the destructor, reshape, assignment through views;
    move assignment and allocator-extended move construction whenever the storage may change hands (equal allocators, or
    POCMA for the assignment — between unequal allocators the repaired code must obtain new storage, as the standard
    containers do); and, at states where the extents agree (and POCCA does not force a change of storage), copy assignment,
    `assign(extensions, value)` and the three `reextent` overloads -/
theorem no_alloc_when_not_needed (c : Cfg) :
    (∀ i j, NoAlloc ((Op.swap i j).run c)) ∧
    (∀ i j s x y, getArr s i = some x → getArr s j = some y → (c.fx9a && !c.pocma && !c.eqv x.alloc y.alloc) = false →
      evCount Event.isAlloc ((Op.assignMove i j).run c s).state.log = evCount Event.isAlloc s.log) ∧
    (∀ i j, NoAlloc ((Op.ctorMove i j).run c)) ∧
    (∀ i j a s y, getArr s j = some y → (c.fx9a && !c.eqv a y.alloc) = false →
      evCount Event.isAlloc ((Op.ctorMoveA i j a).run c s).state.log = evCount Event.isAlloc s.log) ∧
    (∀ i, NoAlloc ((Op.clear i).run c)) ∧
    (∀ i, NoAlloc ((Op.dtor i).run c)) ∧
    (∀ i es, NoAlloc ((Op.reshape i es).run c)) ∧
    (∀ i j, NoAlloc ((Op.viewAssign i j).run c)) ∧
    (∀ i j s x y, getArr s i = some x → getArr s j = some y → extsEq x.ext y.ext = true →
      (c.fx9c && c.pocca && !c.eqv x.alloc y.alloc) = false →
      evCount Event.isAlloc ((Op.assignCopy i j).run c s).state.log = evCount Event.isAlloc s.log) ∧
    (∀ i es s x, getArr s i = some x → extsEq x.ext es = true →
      evCount Event.isAlloc ((Op.assignFill i es).run c s).state.log = evCount Event.isAlloc s.log ∧
      evCount Event.isAlloc ((Op.reextent i es).run c s).state.log = evCount Event.isAlloc s.log ∧
      evCount Event.isAlloc ((Op.reextentFill i es).run c s).state.log = evCount Event.isAlloc s.log ∧
      evCount Event.isAlloc ((Op.reextentRv i es).run c s).state.log = evCount Event.isAlloc s.log) := by
  have hq := quiet_alloc
  refine ⟨?_, ?_, ?_, ?_, ?_, ?_, ?_, ?_, ?_, ?_⟩
  · intro i j
    exact NoEv.withArr2 i j fun x y => NoEv.ite (NoEv.pure ()) (NoEv.bind (NoEv.setSlot _ _) (fun _ => NoEv.setSlot _ _))
  · intro i j s x y hx hy hcond
    show evCount Event.isAlloc (opAssignMove c i j s).state.log = _
    unfold opAssignMove
    rw [get_bind]
    simp only [hx, hy, hcond, Bool.false_eq_true, if_false]
    refine (NoEv.ite (NoEv.pure ()) (NoEv.noexcept (NoEv.bind ?_ (fun _ => NoEv.setSlot _ _))) : NoAlloc _) s
    unfold moveAssignFrom
    exact NoEv.bind (NoEv.clearArr hq c i x) (fun _ => NoEv.setSlot _ _)
  · intro i j
    refine NoEv.withArr j fun y => ?_
    have hc : (c.fx9a && !c.eqv (pickAlloc none y.alloc) y.alloc) = false := by
      rw [show c.eqv (pickAlloc none y.alloc) y.alloc = true from eqv_refl c _]
      exact Bool.and_false _
    simp only [hc, Bool.false_eq_true, if_false]
    exact NoEv.bind (NoEv.setSlot _ _) (fun _ => NoEv.setSlot _ _)
  · intro i j a s y hy hcond
    show evCount Event.isAlloc (opCtorMove c i j (some a) s).state.log = _
    unfold opCtorMove
    rw [get_bind]
    have hc : (c.fx9a && !c.eqv (pickAlloc (some a) y.alloc) y.alloc) = false := hcond
    simp only [hy, hc, Bool.false_eq_true, if_false]
    exact (NoEv.bind (NoEv.setSlot _ _) (fun _ => NoEv.setSlot _ _) : NoAlloc _) s
  · intro i
    exact NoEv.withArr i fun x => NoEv.noexcept (NoEv.bind (NoEv.clearArr hq c i x) (fun _ => NoEv.pure ()))
  · intro i
    exact NoEv.withArr i fun x => NoEv.dtorArr hq c i x
  · intro i es
    exact NoEv.withArr i fun x => NoEv.ite (NoEv.setSlot _ _) NoEv.ub
  · intro i j
    exact NoEv.withArr2 i j fun x y => NoEv.bind (NoEv.readCells c _ _) (fun _ => NoEv.assignAll hq c _ _)
  · intro i j s x y hx hy hsame hkeep
    show evCount Event.isAlloc (opAssignCopy c i j s).state.log = _
    unfold opAssignCopy
    rw [get_bind]
    simp only [hx, hy, hsame, hkeep, Bool.not_false, Bool.and_self, if_true]
    exact (NoEv.ite (NoEv.pure ()) (NoEv.bind (NoEv.setSlot _ _) (fun _ => NoEv.bind (NoEv.readCells c _ _)
      (fun _ => NoEv.assignAll hq c _ _))) : NoAlloc _) s
  · intro i es s x hx hsame
    refine ⟨?_, ?_, ?_, ?_⟩
    · show evCount Event.isAlloc (opAssignFill c i es s).state.log = _
      unfold opAssignFill
      rw [get_bind]
      simp only [hx, hsame, if_true]
      exact NoEv.assignAll hq c _ _ s
    · show evCount Event.isAlloc (opReextent c i es false s).state.log = _
      unfold opReextent
      rw [get_bind]
      simp only [hx, hsame, if_true]
      rfl
    · show evCount Event.isAlloc (opReextent c i es true s).state.log = _
      unfold opReextent
      rw [get_bind]
      simp only [hx, hsame, if_true]
      rfl
    · show evCount Event.isAlloc (opReextentRv c i es s).state.log = _
      unfold opReextentRv
      rw [get_bind]
      simp only [hx, hsame, if_true]
      rfl

/-- every repair in, allocators 1 and 2 unequal and not propagating -/
def cfgFull : Cfg := { cfgAll with fx9a := true, fx9c := true }

/-- `B = std::move(A)` between unequal allocators with the second element move throwing (k = 5: steps 0-2 build `A`,
    3 allocates the new storage, 4 moves element 0, 5 throws): the exception reaches the caller, the new block has been
    returned, `A` still owns its two (valid, partly moved-from) elements, `B` is unchanged — and `fault_safe_fixed` says so for
    every history and every k -/
example : ((runHist cfgFull [.ctorFill 0 1 [⟨0, 2⟩], .ctorDefault 1 2, .assignMove 1 0] (initSt 4 (some 5))).map fun s =>
    (s.blocks.map (·.freed), s.arrs.map (·.map (·.n)), s.fired)) =
    some ([false, true], [some 2, some 0, none, none], some Step.ctor) := by decide +kernel
example : badEnd (runHist cfgFull [.ctorFill 0 1 [⟨0, 2⟩], .ctorDefault 1 2, .assignMove 1 0, .dtor 0, .dtor 1] (initSt 4 (some 5))) = false := by
  decide +kernel

example : cfgFull.Fixed := ⟨rfl, rfl, rfl⟩

example : cfgAll.OK := ⟨(by intro h; cases h), (by decide)⟩
example : cfgAll.Fixed := ⟨rfl, rfl, rfl⟩

/-- a faulted history in the repaired tree: the copy assignment throws at its allocation, every array stays valid -/
example : ((runHist cfgAll [.ctorFill 0 1 [⟨0, 2⟩], .ctorFill 1 1 [⟨0, 3⟩], .assignCopy 0 1, .dtor 0, .dtor 1]
    (initSt 4 (some 7))).map fun s => (s.blocks.map (·.freed), s.arrs, s.fired)) =
    some ([true, true], [none, none, none, none], some Step.alloc) := by decide +kernel

end C09
end Multi
