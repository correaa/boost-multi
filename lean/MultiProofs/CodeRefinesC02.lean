/-
  C02 stated directly about the regenerated iterator code (see CodeRefines.lean)
-/
import MultiProofs.C02
import MultiProofs.GenTieIter

namespace Multi.CodeRefines
open Multi Multi.Gen

/-- **C02 on the regenerated `array_iterator`** (D > 1 operators `I_*`; the D = 1 operators `I1_*` are the same functions by
    `GenTieIter.array_iterator_is_the_code`): the random-access laws, stated about the code as it is today -/
theorem code_arrit_laws (it : ArrIt) (n m : Int) (hs : it.stride ≠ 0) :
    I_dec (I_inc it) = it ∧ I_inc (I_dec it) = it ∧ I_inc it = I_add it 1 ∧ I_dec it = I_sub it 1 ∧
    I_sub (I_add it n) n = it ∧ I_diff (I_add it n) it = n ∧ I_diff (I_add it n) (I_add it m) = n - m ∧
    (I_lt it (I_add it n) = decide (0 < n)) ∧ (I_lt (I_add it n) it = decide (n < 0)) ∧
    I_at it n = I_deref (I_add it n) ∧
    I1_dec (I1_inc it) = it ∧ I1_sub (I1_add it n) n = it ∧ I1_diff (I1_add it n) it = n := by
  obtain ⟨h1, h2, h3, h4, h5, h6, h7, h8, h9, h10, -⟩ := C02.arrit_laws it n m hs
  simp only [GenTieIter.I_inc_tie, GenTieIter.I_dec_tie, GenTieIter.I_add_tie, GenTieIter.I_sub_tie, GenTieIter.I_diff_tie,
    GenTieIter.I_lt_tie, GenTieIter.I_at_tie, GenTieIter.I_deref_tie]
  exact ⟨h1, h2, h3, h4, h5, h6, h7, h8, h9, h10, h1, h5, h6⟩

end Multi.CodeRefines
