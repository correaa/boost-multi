/-
  MultiProofs.LedgerSteps — a small Hoare logic for the micro-step monad of MultiModel.Ledger (`Out`: one predicate per
  outcome, undefined behaviour excluded) and the specification of every micro-step and of the loops over the cells of one
  block: what it does to the heap when it succeeds (`Fr`: the blocks and the pool afterwards), what it leaves behind when
  it throws, and that it never runs into undefined behaviour under its precondition.
-/
import MultiProofs.LedgerInv

namespace Multi
namespace Ledger

/-- outcome predicate: `okP` on normal return, `thP` when an exception propagates, `T` when std::terminate is called;
    undefined behaviour is never allowed -/
def Out {α : Type} (r : Res α) (okP : α → St → Prop) (thP : St → Prop) (T : Prop := False) : Prop :=
  match r with
  | .ok a s' => okP a s'
  | .threw s' => thP s'
  | .term _ => T
  | .ub _ => False

/-- `s'` has blocks `B'` and pool `A'`, and did not gain fuel: without an armed fault no later step throws -/
structure Fr (s s' : St) (B' : List Block) (A' : List (Option Arr)) : Prop where
  blocks : s'.blocks = B'
  arrs : s'.arrs = A'
  fuel : s.fuel = none → s'.fuel = none

theorem Fr.refl (s : St) : Fr s s s.blocks s.arrs := ⟨rfl, rfl, id⟩

theorem Fr.trans {s s1 s2 : St} {B1 B2 : List Block} {A1 A2 : List (Option Arr)}
    (h1 : Fr s s1 B1 A1) (h2 : Fr s1 s2 B2 A2) : Fr s s2 B2 A2 :=
  ⟨h2.blocks, h2.arrs, fun h => h2.fuel (h1.fuel h)⟩

theorem Fr.armed {s s1 : St} {B1 : List Block} {A1 : List (Option Arr)} (h1 : Fr s s1 B1 A1) (h : s1.fuel ≠ none) :
    s.fuel ≠ none := fun e => h (h1.fuel e)

namespace Out

variable {α β : Type}

theorem mono {r : Res α} {P P' : α → St → Prop} {Q Q' : St → Prop} {T T' : Prop}
    (h : Out r P Q T) (hp : ∀ a s, P a s → P' a s) (hq : ∀ s, Q s → Q' s) (ht : T → T') : Out r P' Q' T' := by
  cases r with
  | ok a s => exact hp a s h
  | threw s => exact hq s h
  | term s => exact ht h
  | ub s => exact h

theorem pure' {a : α} {s : St} {P : α → St → Prop} {Q : St → Prop} {T : Prop} (h : P a s) :
    Out ((pure a : M α) s) P Q T := h

theorem bind {m : M α} {f : α → M β} {s : St} {P : α → St → Prop} {Q : St → Prop}
    {P' : β → St → Prop} {Q' : St → Prop} {T : Prop}
    (hm : Out (m s) P Q T) (hf : ∀ a s', P a s' → Out (f a s') P' Q' T) (hq : ∀ s', Q s' → Q' s') :
    Out ((m >>= f) s) P' Q' T := by
  show Out (M.bind m f s) P' Q' T
  unfold M.bind
  revert hm
  cases m s with
  | ok a s' => exact hf a s'
  | threw s' => exact hq s'
  | term s' => exact id
  | ub s' => exact False.elim

theorem tryCatch' {m h : M α} {s : St} {P : α → St → Prop} {Q : St → Prop}
    {P' : α → St → Prop} {Q' : St → Prop} {T : Prop}
    (hm : Out (m s) P Q T) (hh : ∀ s', Q s' → Out (h s') P' Q' T) (hp : ∀ a s', P a s' → P' a s') :
    Out (tryCatch m h s) P' Q' T := by
  unfold tryCatch
  revert hm
  cases m s with
  | ok a s' => exact hp a s'
  | threw s' => exact hh s'
  | term s' => exact id
  | ub s' => exact False.elim

theorem noexcept' {m : M α} {s : St} {P : α → St → Prop} {Q Q' : St → Prop} {T T' : Prop}
    (hm : Out (m s) P Q T) (hq : ∀ s', Q s' → T') (ht : T → T') : Out (noexcept m s) P Q' T' := by
  unfold noexcept
  revert hm
  cases m s with
  | ok a s' => exact id
  | threw s' => exact hq s'
  | term s' => exact ht
  | ub s' => exact False.elim

theorem imp {r : Res α} {P P' : α → St → Prop} {Q : St → Prop} {T : Prop} (h : Out r P Q T) (hp : ∀ a s, P a s → P' a s) :
    Out r P' Q T :=
  h.mono hp (fun _ e => e) id

/-- the shape of a fallible micro-step: when the tick succeeds the state is updated by `g` and `a` is returned -/
theorem step {r : Res Unit} {g : St → St} {a : St → α} {P : Unit → St → Prop} {Q : St → Prop} {T : Prop}
    {P' : α → St → Prop} {Q' : St → Prop} (h : Out r P Q T) (hp : ∀ u s1, P u s1 → P' (a s1) (g s1)) (hq : ∀ s1, Q s1 → Q' s1) :
    Out (match r with
      | .ok _ s1 => .ok (a s1) (g s1)
      | .threw s1 => .threw s1
      | .term s1 => .term s1
      | .ub s1 => .ub s1) P' Q' T := by
  cases r with
  | ok u s1 => exact hp u s1 h
  | threw s1 => exact hq s1 h
  | term s1 => exact h
  | ub s1 => exact h

theorem bind_ok {m : M α} {f : α → M β} {s : St} {P : α → St → Prop} {P' : β → St → Prop} {Q' : St → Prop} {T : Prop}
    (hm : Out (m s) P (fun _ => False) T) (hf : ∀ a s', P a s' → Out (f a s') P' Q' T) : Out ((m >>= f) s) P' Q' T :=
  bind hm hf (fun _ h => h.elim)

theorem bind_same {m : M α} {f : α → M β} {s : St} {P' : β → St → Prop} {Q' : St → Prop} {T : Prop}
    (hm : Out (m s) (fun _ s' => s' = s) (fun _ => False) T) (hf : ∀ a, Out (f a s) P' Q' T) :
    Out ((m >>= f) s) P' Q' T :=
  bind_ok hm (fun a _ e => e ▸ hf a)

theorem noexcept_ok {m : M α} {s : St} {P : α → St → Prop} {Q' : St → Prop} {T' : Prop}
    (hm : Out (m s) P (fun _ => False) False) : Out (noexcept m s) P Q' T' :=
  noexcept' hm (fun _ e => e.elim) (fun e => e.elim)

theorem ite {p : Prop} [Decidable p] {m m' : M α} {s : St} {P : α → St → Prop} {Q : St → Prop} {T : Prop}
    (h : p → Out (m s) P Q T) (h' : ¬p → Out (m' s) P Q T) : Out ((if p then m else m') s) P Q T := by
  split
  · exact h ‹p›
  · exact h' ‹¬p›

end Out

theorem bind_assoc {α β γ : Type} (m : M α) (f : α → M β) (g : β → M γ) (s : St) :
    ((m >>= f) >>= g) s = (m >>= fun a => f a >>= g) s := by
  show M.bind (M.bind m f) g s = M.bind m (fun a => M.bind (f a) g) s
  unfold M.bind
  cases m s <;> rfl

theorem get_out (s : St) {P : St → St → Prop} {Q : St → Prop} {T : Prop} (h : P s s) : Out (get s) P Q T := h

theorem setSlot_out (i : Nat) (o : Option Arr) (s : St) {Q : St → Prop} {T : Prop} :
    Out (setSlot i o s) (fun _ s' => Fr s s' s.blocks (s.arrs.set i o)) Q T := by
  show Fr s { s with arrs := s.arrs.set i o } s.blocks (s.arrs.set i o)
  exact ⟨rfl, rfl, id⟩

theorem rethrow_out {α : Type} (s : St) {P : α → St → Prop} {Q : St → Prop} {T : Prop} (h : Q s) :
    Out ((rethrow : M α) s) P Q T := h

theorem tick_out (k : Step) (s : St) {T : Prop} :
    Out (tick k s) (fun _ s' => Fr s s' s.blocks s.arrs) (fun s' => Fr s s' s.blocks s.arrs ∧ s.fuel ≠ none) T := by
  unfold tick
  cases hf : s.fuel with
  | none => exact ⟨rfl, rfl, fun _ => hf⟩
  | some n =>
    cases n with
    | zero => exact ⟨⟨rfl, rfl, fun _ => rfl⟩, by simp⟩
    | succ m => exact ⟨rfl, rfl, fun h => by rw [hf] at h; cases h⟩

theorem mayTick_out (b : Bool) (k : Step) (s : St) {T : Prop} :
    Out ((if b then tick k s else Res.ok () s)) (fun _ s' => Fr s s' s.blocks s.arrs)
      (fun s' => Fr s s' s.blocks s.arrs ∧ s.fuel ≠ none) T := by
  cases b with
  | true => exact tick_out k s
  | false => exact Fr.refl s

theorem allocate_out (a : AllocId) (n : Nat) (s : St) {T : Prop} :
    Out (allocate a n s)
      (fun p s' => (n = 0 ∧ p = none ∧ Fr s s' s.blocks s.arrs) ∨
                   (0 < n ∧ p = some s.blocks.length ∧ Fr s s' (s.blocks ++ [freshBlock a n]) s.arrs))
      (fun s' => Fr s s' s.blocks s.arrs ∧ s.fuel ≠ none) T := by
  unfold allocate
  by_cases hn : n = 0
  · subst hn
    exact Or.inl ⟨rfl, rfl, Fr.refl s⟩
  · simp only [hn, if_false]
    refine Out.step (tick_out Step.alloc s) ?_ (fun _ e => e)
    intro _ s1 ht
    refine Or.inr ⟨Nat.pos_of_ne_zero hn, ?_, ?_⟩
    · show some s1.blocks.length = some s.blocks.length
      rw [ht.blocks]
    · exact ⟨by show s1.blocks ++ _ = _; rw [ht.blocks], ht.arrs, ht.fuel⟩

def withCells (B : List Block) (b : Nat) (blk : Block) (cs : List Cell) : List Block :=
  B.set b { blk with cells := cs }

theorem withCells_get {B : List Block} {b : Nat} {blk : Block} {cs : List Cell} (hB : B[b]? = some blk) :
    (withCells B b blk cs)[b]? = some { blk with cells := cs } := by
  unfold withCells
  exact List.getElem?_set_self (List.getElem?_eq_some_iff.mp hB).1

theorem withCells_withCells {B : List Block} {b : Nat} {blk : Block} {cs cs' : List Cell} :
    withCells (withCells B b blk cs) b { blk with cells := cs } cs' = withCells B b blk cs' := by
  unfold withCells
  simp [List.set_set]

theorem withCells_self {B : List Block} {b : Nat} {blk : Block} (hB : B[b]? = some blk) :
    withCells B b blk blk.cells = B := by
  obtain ⟨hlt, rfl⟩ := List.getElem?_eq_some_iff.mp hB
  exact List.set_getElem_self hlt

theorem set_last {B : List Block} {blk blk' : Block} : (B ++ [blk]).set B.length blk' = B ++ [blk'] := by
  rw [List.set_append_right _ _ (Nat.le_refl _)]; simp

theorem withCells_last {B : List Block} {blk : Block} {cs : List Cell} :
    withCells (B ++ [blk]) B.length blk cs = B ++ [{ blk with cells := cs }] := set_last

theorem ctorCell_out (c : Cfg) (b off : Nat) (s : St) {blk : Block} {T : Prop}
    (hB : s.blocks[b]? = some blk) (hf : blk.freed = false) (hc : blk.cells[off]? = some Cell.raw) :
    Out (ctorCell c b off s)
      (fun _ s' => Fr s s' (withCells s.blocks b blk (blk.cells.set off Cell.live)) s.arrs)
      (fun s' => Fr s s' s.blocks s.arrs ∧ s.fuel ≠ none) T := by
  unfold ctorCell
  simp only [hB, hf, hc, Bool.false_or, bne_self_eq_false, Bool.false_eq_true, if_false]
  exact Out.step (mayTick_out c.elemThrows Step.ctor s)
    (fun _ s1 ht => ⟨by show s1.blocks.set b _ = _; rw [ht.blocks]; rfl, ht.arrs, ht.fuel⟩) (fun _ e => e)

theorem dtorCell_out (b off : Nat) (s : St) {blk : Block} {Q : St → Prop} {T : Prop}
    (hB : s.blocks[b]? = some blk) (hf : blk.freed = false) (hc : blk.cells[off]? = some Cell.live) :
    Out (dtorCell b off s)
      (fun _ s' => Fr s s' (withCells s.blocks b blk (blk.cells.set off Cell.raw)) s.arrs) Q T := by
  unfold dtorCell
  simp only [hB, hf, hc, Bool.false_or, bne_self_eq_false, Bool.false_eq_true, if_false]
  exact ⟨rfl, rfl, id⟩

theorem assignCell_out (c : Cfg) (b off : Nat) (s : St) {blk : Block} {T : Prop}
    (hB : s.blocks[b]? = some blk) (hf : blk.freed = false)
    (hc : blk.cells[off]? = some Cell.live ∨ (c.trivCtor = true ∧ blk.cells[off]? = some Cell.raw)) :
    Out (assignCell c b off s)
      (fun _ s' => Fr s s' (withCells s.blocks b blk (blk.cells.set off Cell.live)) s.arrs)
      (fun s' => Fr s s' s.blocks s.arrs ∧ s.fuel ≠ none) T := by
  unfold assignCell
  have hcond : (blk.freed || !(blk.cells[off]? == some Cell.live || (c.trivCtor && blk.cells[off]? == some Cell.raw))) = false := by
    rcases hc with h | ⟨h1, h2⟩
    · simp [hf, h]
    · simp [hf, h1, h2]
  simp only [hB, hcond, Bool.false_eq_true, if_false]
  exact Out.step (mayTick_out c.elemThrows Step.assign s)
    (fun _ s1 ht => ⟨by show s1.blocks.set b _ = _; rw [ht.blocks]; rfl, ht.arrs, ht.fuel⟩) (fun _ e => e)

theorem Fr.same_cells {s s' : St} {b : Nat} {blk : Block} (h : Fr s s' s.blocks s.arrs) (hB : s.blocks[b]? = some blk) :
    Fr s s' (withCells s.blocks b blk blk.cells) s.arrs := by
  rw [withCells_self hB]; exact h

theorem Fr.cells_trans {s s1 s2 : St} {b : Nat} {blk : Block} {cs1 cs2 : List Cell}
    (h1 : Fr s s1 (withCells s.blocks b blk cs1) s.arrs)
    (h2 : Fr s1 s2 (withCells s1.blocks b { blk with cells := cs1 } cs2) s1.arrs) :
    Fr s s2 (withCells s.blocks b blk cs2) s.arrs := by
  have := h1.trans h2
  rwa [h1.blocks, h1.arrs, withCells_withCells] at this

/-- `cs'` is `cs` with the cells `[lo, hi)` set to `v` -/
def Filled (cs cs' : List Cell) (lo hi : Nat) (v : Cell) : Prop :=
  cs'.length = cs.length ∧ (∀ j, lo ≤ j → j < hi → cs'[j]? = some v) ∧ (∀ j, j < lo ∨ hi ≤ j → cs'[j]? = cs[j]?)

theorem Filled.refl (cs : List Cell) (lo : Nat) (v : Cell) : Filled cs cs lo lo v :=
  ⟨rfl, fun j h1 h2 => by omega, fun _ _ => rfl⟩

theorem Filled.cons_lo {cs cs' : List Cell} {lo hi : Nat} {v : Cell} (h : Filled (cs.set lo v) cs' (lo + 1) hi v)
    (hlt : lo < cs.length) (hlh : lo < hi) : Filled cs cs' lo hi v := by
  obtain ⟨hlen, hin, hout⟩ := h
  refine ⟨by rw [hlen, List.length_set], fun j h1 h2 => ?_, fun j hj => ?_⟩
  · by_cases hj : lo = j
    · subst hj; rw [hout lo (Or.inl (Nat.lt_succ_self lo))]; exact List.getElem?_set_self hlt
    · exact hin j (Nat.lt_of_le_of_ne h1 hj) h2
  · rw [hout j (hj.imp Nat.lt_succ_of_lt id)]
    exact List.getElem?_set_ne (fun e => by subst e; exact hj.elim (Nat.lt_irrefl _) (Nat.not_le_of_lt hlh))

theorem Filled.snoc_hi {cs cs' : List Cell} {lo hi : Nat} {v : Cell} (h : Filled (cs.set hi v) cs' lo hi v)
    (hlt : hi < cs.length) (hle : lo ≤ hi) : Filled cs cs' lo (hi + 1) v := by
  obtain ⟨hlen, hin, hout⟩ := h
  refine ⟨by rw [hlen, List.length_set], fun j h1 h2 => ?_, fun j hj => ?_⟩
  · by_cases hj : hi = j
    · subst hj; rw [hout hi (Or.inr (Nat.le_refl hi))]; exact List.getElem?_set_self hlt
    · exact hin j h1 (Nat.lt_of_le_of_ne (Nat.le_of_lt_succ h2) (Ne.symm hj))
  · rw [hout j (hj.imp id Nat.le_of_succ_le)]
    exact List.getElem?_set_ne (fun e => by subst e; exact hj.elim (Nat.not_lt_of_le hle) (Nat.not_succ_le_self _))

/-- the `catch` handler of the uninitialized algorithms -/
theorem destroyFwd_out (b : Nat) {Q : St → Prop} {T : Prop} :
    ∀ (k f : Nat) (s : St) (blk : Block), s.blocks[b]? = some blk → blk.freed = false →
      (∀ j, f ≤ j → j < f + k → blk.cells[j]? = some Cell.live) →
      Out (destroyFwd b k f s)
        (fun _ s' => ∃ cs', Fr s s' (withCells s.blocks b blk cs') s.arrs ∧ Filled blk.cells cs' f (f + k) Cell.raw) Q T := by
  intro k
  induction k with
  | zero =>
    intro f s blk hB hf hl
    exact ⟨blk.cells, (Fr.refl s).same_cells hB, Filled.refl _ _ _⟩
  | succ k ih =>
    intro f s blk hB hf hl
    have hcf : blk.cells[f]? = some Cell.live := hl f (Nat.le_refl _) (Nat.lt_add_of_pos_right (Nat.succ_pos k))
    show Out ((dtorCell b f >>= fun _ => destroyFwd b k (f + 1)) s) _ _ _
    apply Out.bind_ok (dtorCell_out b f s hB hf hcf)
    intro _ s1 h1
    refine (ih (f + 1) s1 { blk with cells := blk.cells.set f Cell.raw } (by rw [h1.blocks]; exact withCells_get hB) hf ?_).imp ?_
    · intro j h2 h3
      exact (List.getElem?_set_ne (Nat.ne_of_lt h2)).trans (hl j (Nat.le_of_succ_le h2) (Nat.add_right_comm f 1 k ▸ h3))
    · intro _ s' ⟨cs', hfr, hfill⟩
      refine ⟨cs', h1.cells_trans hfr, ?_⟩
      rw [Nat.add_comm k 1, ← Nat.add_assoc]
      exact hfill.cons_lo (List.getElem?_eq_some_iff.mp hcf).1 (Nat.lt_add_right k (Nat.lt_succ_self f))

/-- `alloc_destroy_n` (destroys from the back) -/
theorem destroyBack_out (b : Nat) {Q : St → Prop} {T : Prop} :
    ∀ (k : Nat) (s : St) (blk : Block), s.blocks[b]? = some blk → blk.freed = false →
      (∀ j, j < k → blk.cells[j]? = some Cell.live) →
      Out (destroyBack b k s)
        (fun _ s' => ∃ cs', Fr s s' (withCells s.blocks b blk cs') s.arrs ∧ Filled blk.cells cs' 0 k Cell.raw) Q T := by
  intro k
  induction k with
  | zero =>
    intro s blk hB hf hl
    exact ⟨blk.cells, (Fr.refl s).same_cells hB, Filled.refl _ _ _⟩
  | succ k ih =>
    intro s blk hB hf hl
    have hck : blk.cells[k]? = some Cell.live := hl k (Nat.lt_succ_self k)
    show Out ((dtorCell b k >>= fun _ => destroyBack b k) s) _ _ _
    apply Out.bind_ok (dtorCell_out b k s hB hf hck)
    intro _ s1 h1
    refine (ih s1 { blk with cells := blk.cells.set k Cell.raw } (by rw [h1.blocks]; exact withCells_get hB) hf ?_).imp ?_
    · intro j h2
      exact (List.getElem?_set_ne (Nat.ne_of_gt h2)).trans (hl j (Nat.lt_succ_of_lt h2))
    · intro _ s' ⟨cs', hfr, hfill⟩
      exact ⟨cs', h1.cells_trans hfr, hfill.snoc_hi (List.getElem?_eq_some_iff.mp hck).1 (Nat.zero_le _)⟩

theorem constructN_succ (c : Cfg) (b : Nat) (first : Nat → Nat) (k cur : Nat) (s : St) :
    constructN c b first (k + 1) cur s =
      match ctorCell c b cur s with
      | .ok _ s1 => constructN c b first k (cur + 1) s1
      | .threw s1 => (do destroyFwd b (cur - first cur) (first cur); rethrow) s1
      | .term s1 => .term s1
      | .ub s1 => .ub s1 := rfl

theorem lt_of_window {f cur j : Nat} (h1 : f ≤ j) (h2 : j < f + (cur - f)) : j < cur := by omega

/-- loop invariant of the uninitialized algorithms: the cells below `cur` hold objects, those in `[cur, hi)` are raw -/
structure LiveTo (cs : List Cell) (cur hi : Nat) : Prop where
  live : ∀ j, j < cur → cs[j]? = some Cell.live
  raw : ∀ j, cur ≤ j → j < hi → cs[j]? = some Cell.raw

theorem LiveTo.step {cs : List Cell} {cur hi : Nat} (h : LiveTo cs cur hi) (hlt : cur < hi) :
    LiveTo (cs.set cur Cell.live) (cur + 1) hi := by
  have hc : cur < cs.length := (List.getElem?_eq_some_iff.mp (h.raw cur (Nat.le_refl _) hlt)).1
  refine ⟨fun j hj => ?_, fun j h1 h2 => (List.getElem?_set_ne (Nat.ne_of_lt h1)).trans (h.raw j (Nat.le_of_succ_le h1) h2)⟩
  by_cases e : cur = j
  · subst e; exact List.getElem?_set_self hc
  · exact (List.getElem?_set_ne e).trans (h.live j (Nat.lt_of_le_of_ne (Nat.le_of_lt_succ hj) (Ne.symm e)))

/-- the uninitialized algorithms building `[cur, hi)`: on success all cells below `hi` are alive; on a throwing construction
    the flat algorithms (`first = 0`: everything built so far is rolled back) leave all of them raw -/
theorem constructN_out (c : Cfg) (b : Nat) (first : Nat → Nat) (hi : Nat) {T : Prop} :
    ∀ (k cur : Nat) (s : St) (blk : Block), s.blocks[b]? = some blk → blk.freed = false → cur + k = hi →
      LiveTo blk.cells cur hi →
      Out (constructN c b first k cur s)
        (fun _ s' => ∃ cs', Fr s s' (withCells s.blocks b blk cs') s.arrs ∧ cs'.length = blk.cells.length ∧ LiveTo cs' hi hi)
        (fun s' => s.fuel ≠ none ∧ ∃ cs', Fr s s' (withCells s.blocks b blk cs') s.arrs ∧ cs'.length = blk.cells.length ∧
          ((∀ x, first x = 0) → ∀ j, j < hi → cs'[j]? = some Cell.raw)) T := by
  intro k
  induction k with
  | zero =>
    intro cur s blk hB hf hk hseg
    obtain rfl : cur = hi := hk
    exact ⟨blk.cells, (Fr.refl s).same_cells hB, rfl, hseg⟩
  | succ k ih =>
    intro cur s blk hB hf hk hseg
    have hlt : cur < hi := by rw [← hk]; exact Nat.lt_add_of_pos_right (Nat.succ_pos k)
    have hstep := ctorCell_out (T := T) c b cur s hB hf (hseg.raw cur (Nat.le_refl _) hlt)
    rw [constructN_succ]
    revert hstep
    cases ctorCell c b cur s with
    | ok u s1 =>
      intro (h1 : Fr s s1 (withCells s.blocks b blk (blk.cells.set cur Cell.live)) s.arrs)
      refine (ih (cur + 1) s1 { blk with cells := blk.cells.set cur Cell.live } (by rw [h1.blocks]; exact withCells_get hB) hf
        ((Nat.add_right_comm cur 1 k).trans hk) (hseg.step hlt)).mono ?_ ?_ id
      · intro _ s' ⟨cs', hfr, hlen, hb⟩
        exact ⟨cs', h1.cells_trans hfr, hlen.trans (List.length_set ..), hb⟩
      · intro s' ⟨hfu, cs', hfr, hlen, hrb⟩
        exact ⟨h1.armed hfu, cs', h1.cells_trans hfr, hlen.trans (List.length_set ..), hrb⟩
    | threw s1 =>
      intro hstep
      obtain ⟨h1, hfu⟩ : Fr s s1 s.blocks s.arrs ∧ s.fuel ≠ none := hstep
      show Out ((destroyFwd b (cur - first cur) (first cur) >>= fun _ => rethrow) s1) _ _ _
      apply Out.bind_ok (destroyFwd_out b (cur - first cur) (first cur) s1 blk (by rw [h1.blocks]; exact hB) hf
        (fun j h2 h3 => hseg.live j (lt_of_window h2 h3)))
      intro _ s2 ⟨cs', hfr, hlen, hraw, hsame⟩
      refine rethrow_out _ ⟨hfu, cs', ?_, hlen, fun hfirst j h2 => ?_⟩
      · have := h1.trans hfr
        rwa [h1.blocks, h1.arrs] at this
      · rw [hfirst cur, Nat.sub_zero, Nat.zero_add] at hraw hsame
        by_cases hj : j < cur
        · exact hraw j (Nat.zero_le j) hj
        · rw [hsame j (Or.inr (Nat.le_of_not_lt hj))]; exact hseg.raw j (Nat.le_of_not_lt hj) h2
    | term s1 => exact id
    | ub s1 => exact False.elim

theorem assignable {c : Cfg} {cs : List Cell} {off : Nat} (hc : c.trivCtor = true ∨ ∀ x ∈ cs, x = Cell.live)
    (h : off < cs.length) : cs[off]? = some Cell.live ∨ (c.trivCtor = true ∧ cs[off]? = some Cell.raw) := by
  rw [List.getElem?_eq_getElem h]
  rcases hc with ht | hall
  · cases cs[off] with
    | raw => exact Or.inr ⟨ht, rfl⟩
    | live => exact Or.inl rfl
  · exact Or.inl (congrArg some (hall _ (List.getElem_mem h)))

theorem live_set {c : Cfg} {cs : List Cell} (hc : c.trivCtor = true ∨ ∀ x ∈ cs, x = Cell.live) (off : Nat) :
    c.trivCtor = true ∨ ∀ x ∈ cs.set off Cell.live, x = Cell.live :=
  hc.imp id fun hall y hy => (List.mem_or_eq_of_mem_set hy).elim (hall y) id

/-- element-wise assignment over cells that hold objects: no cell changes status (trivial types: raw cells become written) -/
theorem assignCells_out (c : Cfg) (b : Nat) {T : Prop} :
    ∀ (offs : List Nat) (s : St) (blk : Block), s.blocks[b]? = some blk → blk.freed = false →
      (∀ off ∈ offs, off < blk.cells.length) → (c.trivCtor = true ∨ ∀ x ∈ blk.cells, x = Cell.live) →
      Out (assignCells c b offs s)
        (fun _ s' => ∃ cs', Fr s s' (withCells s.blocks b blk cs') s.arrs ∧ cs'.length = blk.cells.length ∧
          (c.trivCtor = true ∨ ∀ x ∈ cs', x = Cell.live))
        (fun s' => s.fuel ≠ none ∧ ∃ cs', Fr s s' (withCells s.blocks b blk cs') s.arrs ∧ cs'.length = blk.cells.length ∧
          (c.trivCtor = true ∨ ∀ x ∈ cs', x = Cell.live)) T := by
  intro offs
  induction offs with
  | nil =>
    intro s blk hB hf hoff hc
    exact ⟨blk.cells, (Fr.refl s).same_cells hB, rfl, hc⟩
  | cons off rest ih =>
    intro s blk hB hf hoff hc
    show Out ((assignCell c b off >>= fun _ => assignCells c b rest) s) _ _ _
    apply Out.bind (assignCell_out c b off s hB hf (assignable hc (hoff off List.mem_cons_self)))
    · intro _ s1 h1
      apply Out.mono (ih s1 { blk with cells := blk.cells.set off Cell.live } (by rw [h1.blocks]; exact withCells_get hB) hf
        (fun o ho => Nat.lt_of_lt_of_eq (hoff o (List.mem_cons_of_mem _ ho)) (List.length_set ..).symm) (live_set hc off)) _ _ id
      · intro _ s' ⟨cs', hfr, hlen, hcs⟩
        exact ⟨cs', h1.cells_trans hfr, hlen.trans (List.length_set ..), hcs⟩
      · intro s' ⟨hfu, cs', hfr, hlen, hcs⟩
        exact ⟨h1.armed hfu, cs', h1.cells_trans hfr, hlen.trans (List.length_set ..), hcs⟩
    · intro s' ⟨h1, hfu⟩
      exact ⟨hfu, blk.cells, h1.same_cells hB, rfl, hc⟩

end Ledger
end Multi
