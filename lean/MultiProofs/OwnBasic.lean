/-
  MultiProofs.OwnBasic — `Exts.eqv` against `collapse`, row-major ranks, what a `Valid` array reports, and frames
  (helper lemmas for C04 / C06).
-/
import MultiProofs.OwnSpec
import MultiProofs.StoreLemmas

namespace Multi
namespace Own
variable {α : Type}

theorem ExtsOK.tail {e : Ext} {es : List Ext} (h : ExtsOK (e :: es)) : ExtsOK es := fun x hx => h x (List.mem_cons_of_mem _ hx)
theorem ExtsOK.head {e : Ext} {es : List Ext} (h : ExtsOK (e :: es)) : e.first ≤ e.last := h e (List.mem_cons_self)

theorem eqv_rec {motive : List Ext → List Ext → Prop} (nil : motive [] [])
    (cons : ∀ x xs y ys, x.eqv y = true → motive xs ys → motive (x :: xs) (y :: ys)) :
    ∀ xs ys, Exts.eqv xs ys = true → motive xs ys
  | [], [], _ => nil
  | x :: xs, y :: ys, h =>
    have h' : x.eqv y = true ∧ Exts.eqv xs ys = true := Bool.and_eq_true_iff.mp h
    cons x xs y ys h'.1 (eqv_rec nil cons xs ys h'.2)
  | [], _ :: _, h => nomatch h
  | _ :: _, [], h => nomatch h

/-- the library's `==` against a list in normal form (a fixpoint of `collapse`, as every array reports) decides equality
    with the collapsed requested extensions -/
theorem eqv_collapse (xs es : List Ext) (hfix : collapse xs = xs) (h : Exts.eqv xs es = true) : collapse es = xs := by
  revert hfix
  refine eqv_rec (motive := fun xs es => collapse xs = xs → collapse es = xs) (fun _ => rfl) ?_ xs es h
  intro x xs e es hxe ih hfix
  simp only [collapse, List.cons.injEq] at hfix ⊢
  have t := ih hfix.2
  have hn : nElems es = nElems xs := by rw [← t, nElems_collapse]
  refine ⟨?_, t⟩
  rcases (Ext.eqv_iff x e).mp hxe with ⟨sx, se⟩ | rfl
  · rw [se, Int.zero_mul, if_pos rfl]
    rw [sx, Int.zero_mul, if_pos rfl] at hfix
    exact hfix.1
  · rw [hn]; exact hfix.1

theorem eqv_nElems (xs ys : List Ext) (h : Exts.eqv xs ys = true) : nElems xs = nElems ys := by
  refine eqv_rec (motive := fun xs ys => nElems xs = nElems ys) rfl ?_ xs ys h
  intro x xs y ys hxy ih
  simp only [nElems, ih]
  rcases (Ext.eqv_iff x y).mp hxy with ⟨sx, sy⟩ | rfl
  · rw [sx, sy]
  · rfl

theorem Valid_exts_fix {es : List Ext} : collapse (collapse es) = collapse es := collapse_idem es

/-- a valid array is `array(es)` for some well-formed `es`: it reports the extensions `collapse es` and has `Π sizes` elements -/
theorem Valid.of_exts {h : Heap α} {a : Arr} (hv : Valid h a) :
    ∃ es, ExtsOK es ∧ a.lay = Layout.ofExts es ∧ a.exts = collapse es ∧ a.numElements = nElems es := by
  obtain ⟨es, hes, hl⟩ := hv.shape
  exact ⟨es, hes, hl, by unfold Arr.exts; rw [hl, ofExts_exts hes], by unfold Arr.numElements; rw [hl, ofExts_numElements hes]⟩

theorem Valid.nonneg {h : Heap α} {a : Arr} (hv : Valid h a) : 0 ≤ a.numElements := by
  obtain ⟨es, hes, -, -, hn⟩ := hv.of_exts
  rw [hn]; exact nElems_nonneg hes

theorem Valid.exts_normal {h : Heap α} {a : Arr} (hv : Valid h a) : ∀ e ∈ a.exts, e.norm = e := by
  obtain ⟨es, -, -, hx, -⟩ := hv.of_exts
  rw [hx]; exact collapse_norm es

theorem Valid.exts_ok {h : Heap α} {a : Arr} (hv : Valid h a) : ExtsOK a.exts := by
  obtain ⟨es, hes, -, hx, -⟩ := hv.of_exts
  rw [hx]; exact collapse_ok hes

theorem Valid.exts_fix {h : Heap α} {a : Arr} (hv : Valid h a) : collapse a.exts = a.exts := by
  obtain ⟨es, -, -, hx, -⟩ := hv.of_exts
  rw [hx]; exact collapse_idem es

theorem Valid.collapse_of_eqv {h : Heap α} {a : Arr} (hv : Valid h a) {x : List Ext} (he : Exts.eqv x a.exts = true) :
    collapse x = a.exts :=
  eqv_collapse _ _ hv.exts_fix (Exts.eqv_comm x a.exts ▸ he)

theorem Valid.nElems_exts {h : Heap α} {a : Arr} (hv : Valid h a) : nElems a.exts = a.numElements := by
  obtain ⟨es, -, -, hx, hn⟩ := hv.of_exts
  rw [hx, hn, nElems_collapse]

theorem Valid.rebuild {h : Heap α} {a : Arr} (hv : Valid h a) :
    (Layout.ofExts a.exts).exts = a.exts ∧ (Layout.ofExts a.exts).numElements = a.numElements :=
  ⟨(ofExts_exts hv.exts_ok).trans hv.exts_fix, (ofExts_numElements hv.exts_ok).trans hv.nElems_exts⟩

theorem cellsOf_live {h : Heap α} {a : Arr} {b : Nat} {cs : List (Cell α)} (hb : a.base = some b) (hl : Live h b cs) :
    cellsOf h a = cs.take a.numElements.toNat := by
  unfold cellsOf Heap.block?
  rw [hb]
  simp only
  rw [show h.blocks[b]? = some (some cs) from hl]
  rfl

theorem cellsOf_zero {h : Heap α} {a : Arr} (hz : a.numElements = 0) : cellsOf h a = [] := by
  unfold cellsOf
  cases h.block? a.base <;> simp [hz]

theorem Valid.cells_length {h : Heap α} {a : Arr} (hv : Valid h a) : (cellsOf h a).length = a.numElements.toNat := by
  rcases hv.store with hz | ⟨b, cs, hb, hl, hlen⟩
  · rw [cellsOf_zero hz, hz]; rfl
  · rw [cellsOf_live hb hl]; simp [hlen]

/-- the block of a valid array with elements: exactly its cells -/
theorem Valid.block {h : Heap α} {a : Arr} (hv : Valid h a) (hn : a.numElements ≠ 0) :
    ∃ b, a.base = some b ∧ Live h b (cellsOf h a) ∧ (cellsOf h a).length = a.numElements.toNat := by
  rcases hv.store with hz | ⟨b, cs, hb, hl, hlen⟩
  · exact absurd hz hn
  · refine ⟨b, hb, ?_, hv.cells_length⟩
    rw [cellsOf_live hb hl, List.take_of_length_le (Nat.le_of_eq hlen)]; exact hl

theorem exts_length (a : Arr) : a.exts.length = a.dim := by simp [Arr.exts, Arr.dim, Layout.exts]

theorem absArr_eq {h : Heap α} {a : Arr} {e : List Ext} {c : List (Cell α)} (he : a.exts = e) (hc : cellsOf h a = c) :
    absArr h a = ⟨e, c⟩ := by unfold absArr; rw [he, hc]

/-- every live block of `h` other than those in `M` is unchanged in `h'` -/
def Frame (h h' : Heap α) (M : Nat → Prop) : Prop := ∀ b cs, Live h b cs → ¬ M b → Live h' b cs

theorem Frame.refl (h : Heap α) (M : Nat → Prop) : Frame h h M := fun _ _ hl _ => hl

theorem Frame.trans {h1 h2 h3 : Heap α} {M : Nat → Prop} (f1 : Frame h1 h2 M) (f2 : Frame h2 h3 M) : Frame h1 h3 M :=
  fun b cs hl hm => f2 b cs (f1 b cs hl hm) hm

theorem Frame.mono {h h' : Heap α} {M M' : Nat → Prop} (f : Frame h h' M) (hm : ∀ b, M b → M' b) : Frame h h' M' :=
  fun b cs hl hn => f b cs hl (fun x => hn (hm b x))

theorem frame_alloc (h : Heap α) (n : Int) (M : Nat → Prop) : Frame h (h.alloc n).1 M := fun _ _ hl _ => (alloc_frame h n).1 _ _ hl

theorem frame_setBlock (h : Heap α) (d : Nat) (x) : Frame h (h.setBlock d x) (fun b => b = d) :=
  fun _ _ hl hne => hl.setBlock_other (fun e => hne e.symm) x

theorem Valid.frame {h h' : Heap α} {M : Nat → Prop} {a : Arr} (hv : Valid h a) (f : Frame h h' M)
    (hout : a.numElements ≠ 0 → ∀ b, a.base = some b → ¬ M b) : Valid h' a ∧ cellsOf h' a = cellsOf h a := by
  rcases hv.store with hz | ⟨b, cs, hb, hl, hlen⟩
  · exact ⟨⟨hv.shape, Or.inl hz⟩, by rw [cellsOf_zero hz, cellsOf_zero hz]⟩
  · by_cases hz : a.numElements = 0
    · exact ⟨⟨hv.shape, Or.inl hz⟩, by rw [cellsOf_zero hz, cellsOf_zero hz]⟩
    · have hl' := f b cs hl (hout hz b hb)
      exact ⟨⟨hv.shape, Or.inr ⟨b, cs, hb, hl', hlen⟩⟩, by rw [cellsOf_live hb hl', cellsOf_live hb hl]⟩

end Own
end Multi
