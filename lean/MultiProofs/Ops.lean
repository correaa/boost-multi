/-
  MultiProofs.Ops — what it is for an operation, as coded, to refine its documented index mapping, and the
  operations on the leading dimension alone: sliced, range, strided, dropped, taked, index.
-/
import MultiProofs.Basic
import MultiProofs.TieLemmas

namespace Multi

/-- `w` (obtained from `v`) has shape `shape`, and its element at `idx` is `v`'s element at `m idx` -/
def Refines (v w : View) (shape : List Ext) (m : List Int → List Int) : Prop :=
  w.lay.WF ∧ w.exts = shape ∧
    ∀ idx, InBox shape idx → w.addr idx = v.addr (m idx) ∧ InBox v.exts (m idx)

theorem Refines.id (v : View) (hwf : v.lay.WF) : Refines v v v.exts (fun idx => idx) :=
  ⟨hwf, rfl, fun _ h => ⟨rfl, h⟩⟩

theorem Refines.trans {v w u : View} {s1 s2 : List Ext} {m1 m2 : List Int → List Int}
    (h1 : Refines v w s1 m1) (h2 : Refines w u s2 m2) : Refines v u s2 (fun idx => m1 (m2 idx)) := by
  obtain ⟨_, hs1, ha1⟩ := h1
  obtain ⟨hw2, hs2, ha2⟩ := h2
  refine ⟨hw2, hs2, ?_⟩
  intro idx hidx
  obtain ⟨e1, b1⟩ := ha2 idx hidx
  rw [hs1] at b1
  obtain ⟨e2, b2⟩ := ha1 _ b1
  exact ⟨by rw [e1, e2], b2⟩

theorem Refines.congr {v w : View} {s s' : List Ext} {m m' : List Int → List Int}
    (h : Refines v w s m) (hs : s = s') (hm : ∀ idx, InBox s idx → m idx = m' idx) : Refines v w s' m' := by
  subst hs
  obtain ⟨a, b, c⟩ := h
  refine ⟨a, b, ?_⟩
  intro idx hidx
  rw [← hm idx hidx]; exact c idx hidx

/-- a result whose leading level is empty has no index to answer for -/
theorem Refines.of_nelems_zero (v : View) {b : Int} {d : Dim} {sub : Layout} (m : List Int → List Int)
    (hn : d.nelems = 0) (hsub : Layout.WF sub) : Refines v ⟨b, d :: sub⟩ (⟨0, 0⟩ :: sub.exts) m := by
  refine ⟨.cons (Or.inl hn) hsub, congrArg (· :: _) (Dim.ext_of_nelems_zero hn), fun idx h => ?_⟩
  obtain ⟨t, r, rfl, h1, h2, -⟩ := inBox_cons h
  exact absurd (Int.lt_of_le_of_lt h1 h2) (Int.lt_irrefl 0)

/-- between views without dimensions there is the one element at the base to compare -/
theorem Refines.nil {v w : View} {m : List Int → List Int} (hv : v.lay = []) (hw : w.lay = [])
    (hb : w.base = v.base) (hm : m [] = []) : Refines v w [] m := by
  refine ⟨by rw [hw]; exact (fun _ h => nomatch h), by simp [View.exts, hw, Layout.exts], fun idx hidx => ?_⟩
  cases idx with
  | cons _ _ => exact hidx.elim
  | nil =>
    rw [hm, addr_eq, addr_eq, hb, hv, hw, View.exts, hv]
    exact ⟨rfl, trivial⟩

/-- operations that replace the leading level `d` by `d'` and move the base by `δ` -/
theorem head_refines {v : View} {d d' : Dim} {sub : Layout} (δ : Int) {E' : Ext} (mh : Int → Int)
    {m : List Int → List Int} (hv : v.lay = d :: sub) (hwf : v.lay.WF) (hd' : d'.WF) (hE : d'.ext = E')
    (hmap : ∀ t r, m (t :: r) = mh t :: r)
    (hm : ∀ t, E'.first ≤ t → t < E'.last →
      (t * d'.stride - d'.offset) + δ = (mh t) * d.stride - d.offset ∧ d.ext.first ≤ mh t ∧ mh t < d.ext.last) :
    Refines v ⟨v.base + δ, d' :: sub⟩ (E' :: sub.exts) m := by
  rw [hv] at hwf
  refine ⟨Layout.WF.cons hd' hwf.tail, ?_, ?_⟩
  · simp [View.exts, Layout.exts, hE]
  · intro idx hidx
    obtain ⟨t, r, rfl, h1, h2, h3⟩ := inBox_cons hidx
    obtain ⟨e1, e2, e3⟩ := hm t h1 h2
    rw [hmap, addr_eq, addr_eq, hv]
    constructor
    · simp only [Layout.off]
      rw [← e1, Int.add_assoc v.base, Int.add_comm _ δ, Int.add_assoc δ]
    · simp only [View.exts, Layout.exts, hv, List.map_cons, InBox]
      exact ⟨⟨e2, e3⟩, h3⟩

/-- operations that replace the two leading levels `d0`, `d1` by one level `d'` -/
theorem merge_refines {v : View} {d0 d1 d' : Dim} {sub : Layout} {E' : Ext} (m0 m1 : Int → Int)
    {m : List Int → List Int} (hv : v.lay = d0 :: d1 :: sub) (hwf : v.lay.WF) (hd' : d'.WF) (hE : d'.ext = E')
    (hmap : ∀ t r, m (t :: r) = m0 t :: m1 t :: r)
    (hm : ∀ t, E'.first ≤ t → t < E'.last →
      t * d'.stride - d'.offset = (m0 t * d0.stride - d0.offset) + (m1 t * d1.stride - d1.offset) ∧
      (d0.ext.first ≤ m0 t ∧ m0 t < d0.ext.last) ∧ (d1.ext.first ≤ m1 t ∧ m1 t < d1.ext.last)) :
    Refines v ⟨v.base, d' :: sub⟩ (E' :: sub.exts) m := by
  rw [hv] at hwf
  refine ⟨.cons hd' hwf.tail.tail, by simp [View.exts, Layout.exts, hE], ?_⟩
  intro idx hidx
  obtain ⟨t, r, rfl, h1, h2, h3⟩ := inBox_cons hidx
  obtain ⟨e1, e2, e3⟩ := hm t h1 h2
  rw [hmap, addr_eq, addr_eq, hv]
  constructor
  · simp only [Layout.off]
    rw [e1, Int.add_assoc]
  · simp only [View.exts, Layout.exts, hv, List.map_cons, InBox]
    exact ⟨e2, e3, h3⟩

/-- keeping `m` indices of the leading dimension from position `c` on (`taked`, `dropped`, `sliced`):
    stride and offset stay, the base moves by `c` strides -/
theorem resize_refines {v : View} {d : Dim} {sub : Layout} (hv : v.lay = d :: sub) (hwf : v.lay.WF)
    {c m δ : Int} (hc : 0 ≤ c) (hm : 0 ≤ m) (hcm : c + m ≤ d.size) (hδ : d.nelems ≠ 0 → δ = c * d.stride)
    {mp : List Int → List Int} (hmap : ∀ t r, mp (t :: r) = (t + c) :: r) :
    Refines v ⟨v.base + δ, { d with nelems := d.stride * m } :: sub⟩
      (Ext.norm ⟨d.ext.first, d.ext.first + m⟩ :: sub.exts) mp := by
  have hd : d.WF := (hv ▸ hwf).head
  obtain ⟨w1, w2⟩ := hd.resize hm (by omega)
  refine head_refines δ (· + c) hv hwf w1 w2 hmap ?_
  intro t h1 h2
  obtain ⟨h1, h2⟩ := Ext.norm_mem h1 h2
  simp only at h1 h2
  have hne : d.nelems ≠ 0 := fun h0 => by rw [Dim.size_of_nelems_zero h0] at hcm; omega
  rw [hδ hne, hd.ext_last]
  simp only
  exact ⟨by rw [Int.add_mul]; omega, by omega⟩

/-- both code paths of `sliced_aux_` produce the level `(stride, offset, stride·(b−a))` -/
theorem sliced_eq {v : View} {d : Dim} {sub : Layout} (hv : v.lay = d :: sub) (hd : d.WF) {a b : Int}
    (hab : d.nelems = 0 → b - a = 0) :
    v.sliced a b = ⟨v.base + (a * d.stride - d.offset), { d with nelems := d.stride * (b - a) } :: sub⟩ := by
  cases sub with
  | nil =>
    simp only [View.sliced, hv, Layout.slice]
    rcases hd.cases with h0 | ⟨f, n, hn, hs, -, hnn, -, hsz⟩
    · simp [h0, hab h0]
    · rw [if_neg (hnn ▸ Int.ne_of_gt (Int.mul_pos hn hs)), hsz, hnn, Int.mul_tdiv_cancel_left _ (by omega)]
  | cons d1 sub' => simp [View.sliced, hv]

theorem sliced_refines (v : View) (a b : Int) (hwf : v.lay.WF) (hd : (Op.sliced a b).InDomain v) :
    Refines v (v.sliced a b) ((Op.sliced a b).specShape v.exts) ((Op.sliced a b).specMap v.exts) := by
  obtain ⟨hne, h1, h2, h3⟩ := hd
  obtain ⟨d, sub, hv⟩ := List.exists_cons_of_ne_nil hne
  have hdwf : d.WF := (hv ▸ hwf).head
  rw [View.ext_cons hv] at h1 h3
  have hsz : d.size = d.ext.last - d.ext.first := hdwf.size_eq
  rw [View.exts_cons hv, sliced_eq hv hdwf (fun h0 => by rw [Dim.size_of_nelems_zero h0] at hsz; omega)]
  refine resize_refines hv hwf (c := a - d.ext.first) (by omega) (by omega) (by omega) ?_ ?_
  · intro h0
    rw [hdwf.offset_eq h0, Int.sub_mul]
  · intro t r
    exact congrArg (· :: r) (by omega)

theorem range_refines (v : View) (a b : Int) (hwf : v.lay.WF) (hd : (Op.range a b).InDomain v) :
    Refines v (v.range a b) ((Op.range a b).specShape v.exts) ((Op.range a b).specMap v.exts) := by
  rw [View.range_eq_sliced]
  exact (sliced_refines v a b hwf hd).congr (by cases v.exts <;> rfl)
    (fun idx _ => by cases v.exts <;> cases idx <;> rfl)

theorem strided_refines (v : View) (s : Int) (hwf : v.lay.WF) (hd : (Op.strided s).InDomain v) :
    Refines v (v.strided s) ((Op.strided s).specShape v.exts) ((Op.strided s).specMap v.exts) := by
  obtain ⟨hne, hs, ⟨n', hn'⟩, ⟨f', hf'⟩⟩ := hd
  obtain ⟨d, sub, hv⟩ := List.exists_cons_of_ne_nil hne
  rw [View.ext_cons hv] at hn' hf'
  have key : v.strided s = ⟨v.base + 0, { d with stride := d.stride * s } :: sub⟩ := by
    simp [View.strided, hv]
  have hs0 : s ≠ 0 := by omega
  have hshape : (Op.strided s).specShape (d.ext :: Layout.exts sub) = Ext.norm ⟨f', f' + n'⟩ :: Layout.exts sub := by
    show Ext.norm ⟨d.ext.first.tdiv s, d.ext.first.tdiv s + d.ext.size.tdiv s⟩ :: _ = _
    rw [hn', hf', Int.mul_tdiv_cancel_left _ hs0, Int.mul_tdiv_cancel_left _ hs0]
  rw [View.exts_cons hv, key, hshape]
  -- the level `(stride·s, f'·stride·s, n'·stride·s)`
  have hdwf : d.WF := (hv ▸ hwf).head
  have hsz : d.size = s * n' := hdwf.size_eq.trans hn'
  have hd' : ({ d with stride := d.stride * s } : Dim).WF ∧
      ({ d with stride := d.stride * s } : Dim).ext = Ext.norm ⟨f', f' + n'⟩ := by
    by_cases h0 : d.nelems = 0
    · rw [Dim.size_of_nelems_zero h0] at hsz
      rw [(Int.mul_eq_zero.mp hsz.symm).resolve_left hs0, norm_of_zero]
      exact ⟨Or.inl h0, Dim.ext_of_nelems_zero h0⟩
    · have e : ∀ x, s * x * d.stride = x * (d.stride * s) := fun x => by
        rw [Int.mul_comm s x, Int.mul_assoc, Int.mul_comm s]
      show Dim.WF ⟨_, d.offset, d.nelems⟩ ∧ Dim.ext ⟨_, d.offset, d.nelems⟩ = _
      rw [hdwf.offset_eq h0, hdwf.nelems_eq, hsz, hf', e, e]
      exact Dim.wf_ext_mk (Int.mul_pos (hdwf.stride_pos h0) hs)
        (Int.le_of_lt (Int.pos_of_mul_pos_right (hsz ▸ hdwf.size_pos h0) hs))
  refine head_refines 0 (s * ·) hv hwf hd'.1 hd'.2 (fun _ _ => rfl) ?_
  intro t h1 h2
  obtain ⟨h1, h2⟩ := Ext.norm_mem h1 h2
  refine ⟨?_, ?_, ?_⟩
  · simp only
    rw [Int.mul_comm d.stride s, ← Int.mul_assoc, Int.mul_comm t s]
    omega
  · rw [hf']
    exact Int.mul_le_mul_of_nonneg_left h1 (Int.le_of_lt hs)
  · rw [hdwf.ext_last, hsz, hf', ← Int.mul_add]
    exact Int.mul_lt_mul_of_pos_left h2 hs

theorem dropped_refines (v : View) (k : Int) (hwf : v.lay.WF) (hd : (Op.dropped k).InDomain v) :
    Refines v (v.dropped k) ((Op.dropped k).specShape v.exts) ((Op.dropped k).specMap v.exts) := by
  obtain ⟨hne, hk0, hk1⟩ := hd
  obtain ⟨d, sub, hv⟩ := List.exists_cons_of_ne_nil hne
  have hsz : d.size = d.ext.size := (hv ▸ hwf).head.size_eq
  rw [View.ext_cons hv, ← hsz] at hk1
  unfold Ext.size at hsz
  have key : v.dropped k = ⟨v.base + k * d.stride, { d with nelems := d.stride * (d.size - k) } :: sub⟩ := by
    simp [View.dropped, hv]
  rw [View.exts_cons hv, key]
  refine (resize_refines hv hwf (c := k) hk0 (by omega) (by omega) (fun _ => rfl) (fun _ _ => rfl)).congr ?_
    (fun _ _ => rfl)
  show Ext.norm ⟨d.ext.first, d.ext.first + (d.size - k)⟩ :: _ = Ext.norm ⟨d.ext.first, d.ext.last - k⟩ :: _
  rw [show d.ext.last - k = d.ext.first + (d.size - k) by omega]

theorem taked_refines (v : View) (k : Int) (hwf : v.lay.WF) (hd : (Op.taked k).InDomain v) :
    Refines v (v.taked k) ((Op.taked k).specShape v.exts) ((Op.taked k).specMap v.exts) := by
  obtain ⟨hne, hk0, hk1⟩ := hd
  obtain ⟨d, sub, hv⟩ := List.exists_cons_of_ne_nil hne
  have hd : d.WF := (hv ▸ hwf).head
  rw [View.ext_cons hv, ← hd.size_eq] at hk1
  have key : v.taked k = ⟨v.base + 0, { d with nelems := d.stride * k } :: sub⟩ := by
    simp [View.taked, hv]
  rw [View.exts_cons hv, key]
  exact resize_refines hv hwf (c := 0) (Int.le_refl 0) hk0 (by omega) (fun _ => (Int.zero_mul _).symm)
    (fun t r => by rw [Int.add_zero]; rfl)

theorem index_refines (v : View) (i : Int) (hwf : v.lay.WF) (hd : (Op.index i).InDomain v) :
    Refines v (v.index i) ((Op.index i).specShape v.exts) ((Op.index i).specMap v.exts) := by
  obtain ⟨hne, h1, h2⟩ := hd
  obtain ⟨d, sub, hv⟩ := List.exists_cons_of_ne_nil hne
  rw [View.ext_cons hv] at h1 h2
  have key : v.index i = ⟨v.base + (i * d.stride - d.offset), sub⟩ := by simp [View.index, hv]
  rw [key, View.exts_cons hv]
  refine ⟨(hv ▸ hwf).tail, rfl, fun idx hidx => ?_⟩
  rw [addr_eq, addr_eq, hv, View.exts_cons hv]
  exact ⟨Int.add_assoc _ _ _, ⟨h1, h2⟩, hidx⟩

end Multi
