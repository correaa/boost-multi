/-
  MultiProofs.LedgerMacro — specifications of the block-level building blocks of the operations (`destroyAll`, `deallocate`,
  `readCells`, `assignAll`) on a block given by its index, and what each does on the empty array (`n = 0`, no block).
-/
import MultiProofs.LedgerSteps

namespace Multi
namespace Ledger

theorem all_of_pointwise {cs : List Cell} {n : Nat} {v : Cell} (hlen : cs.length = n)
    (h : ∀ j, j < n → cs[j]? = some v) : ∀ x ∈ cs, x = v := by
  intro x hx
  obtain ⟨j, hj⟩ := List.mem_iff_getElem?.mp hx
  have hlt : j < cs.length := (List.getElem?_eq_some_iff.mp hj).1
  have := h j (hlen ▸ hlt)
  rw [hj] at this
  simpa using this

theorem pointwise_of_all {cs : List Cell} {v : Cell} (h : ∀ x ∈ cs, x = v) : ∀ j, j < cs.length → cs[j]? = some v := by
  intro j hj
  have hm : cs[j] ∈ cs := List.getElem_mem hj
  rw [List.getElem?_eq_getElem hj, h _ hm]

/-- the Boolean test the model applies to a block (all cells `v`, or the element type is trivial) -/
theorem triv_or_all {t : Bool} {cs : List Cell} {v : Cell} (h : t = true ∨ ∀ x ∈ cs, x = v) : (t || cs.all (· == v)) = true := by
  rcases h with h | h
  · rw [h]; rfl
  · rw [List.all_eq_true.mpr fun x hx => beq_iff_eq.mpr (h x hx)]
    exact Bool.or_true t

theorem freshBlock_cells (a : AllocId) (n j : Nat) (hj : j < n) : (freshBlock a n).cells[j]? = some Cell.raw := by
  simp [freshBlock, hj]

abbrev FrB (s s' : St) (B' : List Block) : Prop := Fr s s' B' s.arrs

theorem destroyAll_zero (c : Cfg) (base : Option Nat) (s : St) {Q : St → Prop} {T : Prop} :
    Out (destroyAll c base 0 s) (fun _ s' => s' = s) Q T := by
  unfold destroyAll
  split
  · rfl
  · rfl

/-- `destroy()` on an owned block: afterwards no cell holds an object that needs destruction -/
theorem destroyAll_out (c : Cfg) (hwf : c.WF) (b n : Nat) (s : St) {blk : Block} {Q : St → Prop} {T : Prop}
    (hn : 0 < n) (hB : s.blocks[b]? = some blk) (hf : blk.freed = false) (hsz : blk.size = n) (hc : CellsOK c blk) :
    Out (destroyAll c (some b) n s)
      (fun _ s' => ∃ cs', FrB s s' (withCells s.blocks b blk cs') ∧ cs'.length = n ∧
        (c.trivDtor = true ∨ ∀ x ∈ cs', x = Cell.raw)) Q T := by
  unfold destroyAll
  by_cases ht : c.trivDtor = true
  · rw [if_pos ht]
    exact ⟨blk.cells, (Fr.refl s).same_cells hB, by rw [hc.1, hsz], Or.inl ht⟩
  · rw [if_neg ht, if_neg (Nat.ne_of_gt hn)]
    have hlive : ∀ x ∈ blk.cells, x = Cell.live := by
      rcases hc.2 with h | h
      · exact absurd (hwf h) ht
      · exact h
    have hpre : ∀ j, j < n → blk.cells[j]? = some Cell.live := by
      intro j hj
      exact pointwise_of_all hlive j (by rw [hc.1, hsz]; exact hj)
    apply Out.imp (destroyBack_out b n s blk hB hf hpre)
    intro _ s' ⟨cs', hfr, hlen, hraw, _⟩
    have hl : cs'.length = n := by rw [hlen, hc.1, hsz]
    exact ⟨cs', hfr, hl, Or.inr (all_of_pointwise hl (fun j hj => hraw j (Nat.zero_le _) hj))⟩

theorem deallocate_zero (c : Cfg) (a : AllocId) (base : Option Nat) (s : St) {Q : St → Prop} {T : Prop} :
    Out (deallocate c a base 0 s) (fun _ s' => s' = s) Q T := by
  unfold deallocate
  simp only [if_true]
  rfl

def freedBlock (blk : Block) (a : AllocId) : Block := { blk with freed := true, freedBy := a }

theorem deallocate_out (c : Cfg) (a : AllocId) (b n : Nat) (s : St) {blk : Block} {Q : St → Prop} {T : Prop}
    (hn : 0 < n) (hB : s.blocks[b]? = some blk) (hf : blk.freed = false) (hsz : blk.size = n)
    (hraw : c.trivDtor = true ∨ ∀ x ∈ blk.cells, x = Cell.raw) :
    Out (deallocate c a (some b) n s) (fun _ s' => FrB s s' (s.blocks.set b (freedBlock blk a))) Q T := by
  subst hsz
  unfold deallocate
  simp only [Nat.ne_of_gt hn, if_false, hB, hf, bne_self_eq_false, triv_or_all hraw, Bool.false_or, Bool.not_true,
    Bool.false_eq_true]
  exact ⟨rfl, rfl, id⟩

theorem readCells_zero (c : Cfg) (base : Option Nat) (s : St) {Q : St → Prop} {T : Prop} :
    Out (readCells c base 0 s) (fun _ s' => s' = s) Q T := by
  unfold readCells
  simp only [if_true]
  rfl

theorem readCells_out (c : Cfg) (b count : Nat) (s : St) {blk : Block} {Q : St → Prop} {T : Prop}
    (hB : s.blocks[b]? = some blk) (hf : blk.freed = false) (hsz : count ≤ blk.size) (hc : CellsOK c blk) :
    Out (readCells c (some b) count s) (fun _ s' => s' = s) Q T := by
  unfold readCells
  by_cases h0 : count = 0
  · simp only [h0, if_true]; rfl
  · have hall : (c.trivCtor || (blk.cells.take count).all (· == Cell.live)) = true :=
      triv_or_all (hc.2.imp id fun h x hx => h x (List.mem_of_mem_take hx))
    have hlt : ¬ blk.size < count := Nat.not_lt_of_le hsz
    simp only [h0, if_false, hB, hf, hall, Bool.not_true, hlt, Bool.or_false, Bool.false_eq_true, decide_false]
    rfl

theorem constructAll_zero (c : Cfg) (base : Option Nat) (rowLen : Nat) (s : St) {Q : St → Prop} {T : Prop} :
    Out (constructAll c base 0 rowLen s) (fun _ s' => s' = s) Q T := by
  unfold constructAll
  simp only [if_true]
  rfl

theorem assignAll_out (c : Cfg) (b : Nat) (offs : List Nat) (s : St) {blk : Block} {T : Prop}
    (hB : s.blocks[b]? = some blk) (hf : blk.freed = false) (hoff : ∀ off ∈ offs, off < blk.size) (hc : CellsOK c blk) :
    Out (assignAll c (some b) offs s)
      (fun _ s' => ∃ cs', FrB s s' (withCells s.blocks b blk cs') ∧ CellsOK c { blk with cells := cs' })
      (fun s' => s.fuel ≠ none ∧ ∃ cs', FrB s s' (withCells s.blocks b blk cs') ∧ CellsOK c { blk with cells := cs' }) T := by
  unfold assignAll
  cases offs with
  | nil =>
    exact ⟨blk.cells, (Fr.refl s).same_cells hB, hc⟩
  | cons o rest =>
    have hoff' : ∀ off ∈ o :: rest, off < blk.cells.length := by
      intro off ho; rw [hc.1]; exact hoff off ho
    apply Out.mono (assignCells_out (T := T) c b (o :: rest) s blk hB hf hoff' hc.2) _ _ id
    · intro _ s' ⟨cs', hfr, hlen, hcs⟩
      exact ⟨cs', hfr, by show cs'.length = blk.size; rw [hlen, hc.1], hcs⟩
    · intro s' ⟨hfu, cs', hfr, hlen, hcs⟩
      exact ⟨hfu, cs', hfr, by show cs'.length = blk.size; rw [hlen, hc.1], hcs⟩

end Ledger
end Multi
