/-
  MultiProofs.OwnSlice — the slices `A.apply(is)` of `reextent`: intersection of extensions, shape and index map of a slice taken with
  one range per dimension, and the fact that the slice's index tuples, mapped back, are `boxIndices is` in order, which gives its canonical
  address list.  Helper lemmas for C06.
-/
import MultiProofs.OwnView

namespace Multi
namespace Own

instance decInBox : (es : List Ext) → (idx : List Int) → Decidable (InBox es idx)
  | [], [] => isTrue trivial
  | e :: es, i :: is => @instDecidableAnd _ _ inferInstance (decInBox es is)
  | [], _ :: _ => isFalse (fun h => h)
  | _ :: _, [] => isFalse (fun h => h)

theorem sameLength_rec {β γ : Type} {motive : List β → List γ → Prop} (nil : motive [] [])
    (cons : ∀ a as b bs, as.length = bs.length → motive as bs → motive (a :: as) (b :: bs)) :
    ∀ as bs, as.length = bs.length → motive as bs
  | [], [], _ => nil
  | a :: as, b :: bs, h => cons a as b bs (Nat.succ.inj h) (sameLength_rec nil cons as bs (Nat.succ.inj h))
  | [], _ :: _, h => nomatch h
  | _ :: _, [], h => nomatch h

theorem Ext.mem_inter (a b : Ext) (t : Int) :
    ((a.inter b).first ≤ t ∧ t < (a.inter b).last) ↔ (a.first ≤ t ∧ t < a.last) ∧ (b.first ≤ t ∧ t < b.last) := by
  simp only [Ext.inter, Int.lt_min, Std.min_le, Int.max_le]
  constructor
  · rintro ⟨(⟨h1, h2⟩ | h1), h3, h4⟩
    · exact ⟨⟨h1, h3⟩, h2, h4⟩
    · exact absurd h1 (by omega)
  · rintro ⟨⟨h1, h2⟩, h3, h4⟩
    exact ⟨Or.inl ⟨h1, h3⟩, h2, h4⟩

theorem Ext.inter_inDomain (a b : Ext) (h : (a.inter b).first < (a.inter b).last) :
    (Arg.rng (a.inter b).first (a.inter b).last).InDomain a ∧ (Arg.rng (a.inter b).first (a.inter b).last).InDomain b := by
  simp only [Ext.inter, Arg.InDomain] at h ⊢
  have hx : max a.first b.first ≤ min a.last b.last := by
    rcases Int.le_total (max a.first b.first) (min a.last b.last) with h1 | h1
    · exact h1
    · rw [Int.min_eq_right h1] at h; exact absurd h (Int.lt_irrefl _)
  rw [Int.min_eq_left hx]
  exact ⟨⟨Int.le_max_left _ _, hx, Int.min_le_left _ _⟩, Int.le_max_right _ _, hx, Int.min_le_right _ _⟩

theorem inter_length (as bs : List Ext) (h : as.length = bs.length) : (Exts.inter as bs).length = as.length :=
  sameLength_rec (motive := fun as bs => (Exts.inter as bs).length = as.length) rfl
    (fun _ _ _ _ _ ih => congrArg Nat.succ ih) as bs h

theorem inter_ok : ∀ (as bs : List Ext), ExtsOK (Exts.inter as bs)
  | a :: as, b :: bs => fun e he => by
    rcases List.mem_cons.mp he with he | he
    · subst he; exact Int.min_le_right _ _
    · exact inter_ok as bs e he
  | [], _ => fun _ he => nomatch he
  | _ :: _, [] => fun _ he => nomatch he

theorem inBox_inter (as bs : List Ext) (idx : List Int) (h : as.length = bs.length) :
    InBox (Exts.inter as bs) idx ↔ InBox as idx ∧ InBox bs idx := by
  revert idx
  refine sameLength_rec (motive := fun as bs => ∀ idx, InBox (Exts.inter as bs) idx ↔ InBox as idx ∧ InBox bs idx) ?_ ?_ as bs h
  · intro idx; cases idx
    · exact ⟨fun _ => ⟨trivial, trivial⟩, fun _ => trivial⟩
    · exact ⟨False.elim, fun h => h.1⟩
  · intro a as b bs _ ih idx
    cases idx with
    | nil => exact ⟨False.elim, fun h => h.1⟩
    | cons t r =>
      simp only [Exts.inter, InBox, ih r, Ext.mem_inter]
      exact and_and_and_comm

/-- every range of a non-empty intersection lies inside both extensions: the call-syntax arguments are in domain -/
theorem inter_inDomain (as bs : List Ext) (h : as.length = bs.length) : (∀ i ∈ Exts.inter as bs, i.first < i.last) →
    argsInDomain ((Exts.inter as bs).map fun e => Arg.rng e.first e.last) as ∧
    argsInDomain ((Exts.inter as bs).map fun e => Arg.rng e.first e.last) bs := by
  refine sameLength_rec (motive := fun as bs => (∀ i ∈ Exts.inter as bs, i.first < i.last) →
    argsInDomain ((Exts.inter as bs).map fun e => Arg.rng e.first e.last) as ∧
    argsInDomain ((Exts.inter as bs).map fun e => Arg.rng e.first e.last) bs) ?_ ?_ as bs h
  · intro _; exact ⟨trivial, trivial⟩
  · intro a as b bs _ ih hne
    obtain ⟨d1, d2⟩ := Ext.inter_inDomain a b (hne _ List.mem_cons_self)
    obtain ⟨i1, i2⟩ := ih (fun i hi => hne i (List.mem_cons_of_mem _ hi))
    exact ⟨⟨d1, i1⟩, ⟨d2, i2⟩⟩

/-- shape of `v(is₀, is₁, …)` for a view with extensions `es`: the index bases of `es`, the sizes of `is` -/
def sliceShape : List Ext → List Ext → List Ext
  | i :: is, e :: es => ⟨e.first, e.first + (i.last - i.first)⟩ :: sliceShape is es
  | _, _ => []

theorem callShape_rng (is es : List Ext) (h : is.length = es.length) : (∀ i ∈ is, i.first < i.last) →
    callShape (is.map fun e => Arg.rng e.first e.last) es = sliceShape is es := by
  refine sameLength_rec (motive := fun is es => (∀ i ∈ is, i.first < i.last) →
    callShape (is.map fun e => Arg.rng e.first e.last) es = sliceShape is es) (fun _ => rfl) ?_ is es h
  intro i is e es _ ih hp
  have h0 := hp i List.mem_cons_self
  simp only [List.map_cons, callShape, sliceShape, ih (fun j hj => hp j (List.mem_cons_of_mem _ hj))]
  congr 1
  unfold Ext.norm
  rw [if_neg (by simp only; omega)]

theorem sliceShape_ok : ∀ (is es : List Ext), (∀ i ∈ is, i.first < i.last) → ∀ e ∈ sliceShape is es, e.first < e.last
  | i :: is, x :: es => fun hp e he => by
    rcases List.mem_cons.mp he with he | he
    · subst he; have := hp i List.mem_cons_self; simp only; omega
    · exact sliceShape_ok is es (fun j hj => hp j (List.mem_cons_of_mem _ hj)) e he
  | [], _ => fun _ _ he => nomatch he
  | _ :: _, [] => fun _ _ he => nomatch he

theorem sliceShape_length (is es : List Ext) (h : is.length = es.length) : (sliceShape is es).length = is.length :=
  sameLength_rec (motive := fun is es => (sliceShape is es).length = is.length) rfl (fun _ _ _ _ _ ih => congrArg Nat.succ ih) is es h

/-- **the index tuples of the slice, mapped back to the array, are the index tuples of `is` in canonical order** -/
theorem boxIndices_slice (is es : List Ext) (h : is.length = es.length) :
    (boxIndices (sliceShape is es)).map (callMap (is.map fun e => Arg.rng e.first e.last) es) = boxIndices is := by
  refine sameLength_rec (motive := fun is es =>
    (boxIndices (sliceShape is es)).map (callMap (is.map fun e => Arg.rng e.first e.last) es) = boxIndices is) ?_ ?_ is es h
  · simp [sliceShape, boxIndices, callMap]
  · intro i is e es _ ih
    simp only [sliceShape, boxIndices, List.map_flatMap, List.map_map, List.map_cons]
    have hsz : (⟨e.first, e.first + (i.last - i.first)⟩ : Ext).size = i.size := by simp only [Ext.size]; omega
    rw [hsz]
    congr 1
    funext k
    rw [← ih, List.map_map]
    apply List.map_congr_left
    intro r _
    simp only [Function.comp, callMap]
    congr 1
    omega

open C02 in
/-- the slice `v(is)` has elements, and its canonical address list is `v`'s addresses at `boxIndices is` -/
theorem slice_facts (v : View) (hwf : v.lay.WF) (is : List Ext) (hlen : is.length = v.exts.length) (hD : is ≠ [])
    (hpos : ∀ i ∈ is, i.first < i.last) (hdom : argsInDomain (is.map fun e => Arg.rng e.first e.last) v.exts) :
    NonEmpty (applyExts v is) ∧
    (boxIndices (applyExts v is).exts).map (applyExts v is).addr = (boxIndices is).map v.addr := by
  obtain ⟨rwf, rex, raddr⟩ := paren_refines (is.map fun e => Arg.rng e.first e.last) v hwf hdom
  unfold applyExts
  rw [callShape_rng is v.exts hlen hpos] at rex raddr
  have hsl := boxIndices_slice is v.exts hlen
  have hne : (v.paren (is.map fun e => Arg.rng e.first e.last)).exts ≠ [] := fun e =>
    hD (List.eq_nil_of_length_eq_zero ((sliceShape_length is v.exts hlen).symm.trans (congrArg List.length (rex.symm.trans e))))
  refine ⟨nonEmpty_of rwf hne (by rw [rex]; exact sliceShape_ok is v.exts hpos), ?_⟩
  rw [rex, ← hsl, List.map_map]
  apply List.map_congr_left
  intro t ht
  exact (raddr t ((mem_boxIndices _ _).mp ht)).1

end Own
end Multi
