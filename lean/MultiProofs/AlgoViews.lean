/-
  MultiProofs.AlgoViews — what an `algo_*_on_views` / `algo_*_on_elements` corollary of C03 needs besides the list-level
  theorem of AlgoLemmas: the transfer of a list-level fact about a program to the rows / elements of a well-formed
  injective view, and that the transcribed program is `Typed` (writes only rows of the right length).
-/
import MultiProofs.AlgoProgs
import MultiProofs.SeqLemmas

namespace Multi
variable {α : Type}

/-- whatever a `Typed` program does to the list of row values it does to the rows of the view, in place -/
theorem rows_on_views (v : View) (hwf : v.lay.WF) (hne : v.lay ≠ []) (hinj : v.Injective) (m : Mem α)
    {p : Prog (List α)} (hp : p.Typed (boxIndices v.exts.tail).length) {pos : Int} {P : List (List α) → Prop}
    (h : ∃ ys, p.runList (rowsVal v m) = some (ys, pos) ∧ P ys) :
    ∃ m', p.runRows v m = some (m', pos) ∧ P (rowsVal v m') ∧ ∀ a, ¬ v.InImage a → m' a = m a := by
  obtain ⟨ys, h1, h2⟩ := h
  obtain ⟨m', e1, e2, e3⟩ := (rows_refines v hwf hne hinj).run p hp.toP m ys pos h1
  exact ⟨m', by rw [runRows_eq]; exact e1, by rw [e2]; exact h2, e3⟩

/-- the same through `elements()` (no typing condition: elements are single cells) -/
theorem elems_on_views (v : View) (hwf : v.lay.WF) (hne : v.lay ≠ []) (hinj : v.Injective) (m : Mem α)
    {p : Prog α} {pos : Int} {P : List α → Prop}
    (h : ∃ ys, p.runList (elemsVal v m) = some (ys, pos) ∧ P ys) :
    ∃ m', p.runElems v m = some (m', pos) ∧ P (elemsVal v m') ∧ ∀ a, ¬ v.InImage a → m' a = m a := by
  obtain ⟨ys, h1, h2⟩ := h
  obtain ⟨m', e1, e2, e3⟩ := (elems_refines v hwf hne hinj).run p p.typedP_true m ys pos h1
  exact ⟨m', by rw [runElems_eq]; exact e1, by rw [e2]; exact h2, e3⟩

/- Typing of the transcribed programs: each proof follows the definition of its program clause by clause; the only values
   written are values read, `f` of a value read, or the given values. -/

theorem Prog.Typed.ite {n : Nat} {c : Prop} [Decidable c] {p q : Prog (List α)} (hp : p.Typed n) (hq : q.Typed n) :
    (if c then p else q).Typed n := by
  split
  · exact hp
  · exact hq

variable (L : Nat)

theorem revProg_typed : ∀ (fuel : Nat) (lo hi : Int), (revProg (List α) fuel lo hi).Typed L
  | 0, _, _ => .ret _
  | fuel + 1, _, _ => .ite (.swap _ _ _ (revProg_typed fuel _ _)) (.ret _)

theorem fillProg_typed (x : List α) (hx : x.length = L) : ∀ (n : Nat) (i : Int), (fillProg x n i).Typed L
  | 0, _ => .ret _
  | n + 1, _ => .write _ _ _ hx (fillProg_typed x hx n _)

theorem storeProg_typed : ∀ (vals : List (List α)), (∀ r ∈ vals, r.length = L) → ∀ i : Int, (storeProg vals i).Typed L
  | [], _, _ => .ret _
  | _ :: rs, h, _ => .write _ _ _ (h _ List.mem_cons_self) (storeProg_typed rs (fun x hx => h x (List.mem_cons_of_mem _ hx)) _)

theorem copyProg_typed : ∀ (n : Nat) (s d : Int), (copyProg n s d : Prog (List α)).Typed L
  | 0, _, _ => .ret _
  | n + 1, _, _ => .assign _ _ _ (copyProg_typed n _ _)

theorem copyBackwardProg_typed : ∀ (n : Nat) (s d : Int), (copyBackwardProg n s d : Prog (List α)).Typed L
  | 0, _, _ => .ret _
  | n + 1, _, _ => .assign _ _ _ (copyBackwardProg_typed n _ _)

theorem swapRangesProg_typed : ∀ (n : Nat) (a b : Int), (swapRangesProg n a b : Prog (List α)).Typed L
  | 0, _, _ => .ret _
  | n + 1, _, _ => .swap _ _ _ (swapRangesProg_typed n _ _)

theorem transformProg_typed (f : List α → List α) (hf : ∀ x, x.length = L → (f x).length = L) :
    ∀ (n : Nat) (s d : Int), (transformProg f n s d).Typed L
  | 0, _, _ => .ret _
  | n + 1, _, _ => .read _ _ fun x hx => .write _ _ _ (hf x hx) (transformProg_typed f hf n _ _)

theorem findProg_typed (p : List α → Bool) : ∀ (n : Nat) (i : Int), (findProg p n i).Typed L
  | 0, _ => .ret _
  | n + 1, _ => .read _ _ fun _ _ => .ite (.ret _) (findProg_typed p n _)

theorem equalProg_typed (eq : List α → List α → Bool) : ∀ (n : Nat) (a b : Int), (equalProg eq n a b).Typed L
  | 0, _, _ => .ret _
  | n + 1, _, _ => .read _ _ fun _ _ => .read _ _ fun _ _ => .ite (equalProg_typed eq n _ _) (.ret _)

theorem accumulateProg_typed (op : Int → List α → Int) :
    ∀ (n : Nat) (i acc : Int), (accumulateProg op n i acc).Typed L
  | 0, _, _ => .ret _
  | n + 1, _, _ => .read _ _ fun _ _ => accumulateProg_typed op n _ _

theorem isSortedLoop_typed (lt : List α → List α → Bool) : ∀ (n : Nat) (i : Int), (isSortedLoop lt n i).Typed L
  | 0, _ => .ret _
  | n + 1, _ => .read _ _ fun _ _ => .read _ _ fun _ _ => .ite (.ret _) (isSortedLoop_typed lt n _)

theorem isSortedProg_typed (lt : List α → List α → Bool) (n : Nat) : (isSortedProg lt n).Typed L :=
  .ite (.ret _) (isSortedLoop_typed L lt _ _)

theorem lexCompareProg_typed (lt : List α → List α → Bool) :
    ∀ (n1 n2 : Nat) (a b : Int), (lexCompareProg lt n1 n2 a b).Typed L
  | 0, 0, _, _ => .ret _
  | 0, _ + 1, _, _ => .ret _
  | _ + 1, 0, _, _ => .ret _
  | n1 + 1, n2 + 1, _, _ =>
    .read _ _ fun _ _ => .read _ _ fun _ _ => .ite (.ret _) (.ite (.ret _) (lexCompareProg_typed lt n1 n2 _ _))

theorem removeLoop_typed (p : List α → Bool) : ∀ (n : Nat) (i r : Int), (removeLoop p n i r).Typed L
  | 0, _, _ => .ret _
  | n + 1, _, _ => .read _ _ fun _ _ => .ite (removeLoop_typed p n _ _) (.assign _ _ _ (removeLoop_typed p n _ _))

theorem removeFind_typed (p : List α → Bool) : ∀ (n : Nat) (i : Int), (removeFind p n i).Typed L
  | 0, _ => .ret _
  | n + 1, _ => .read _ _ fun _ _ => .ite (removeLoop_typed L p n _ _) (removeFind_typed p n _)

theorem removeProg_typed (p : List α → Bool) (n : Nat) : (removeProg p n).Typed L :=
  removeFind_typed L p n 0

mutual
theorem partFwd_typed (p : List α → Bool) : ∀ (f : Nat) (lo hi : Int), (partFwd p f lo hi).Typed L
  | 0, _, _ => .ret _
  | f + 1, _, _ => .ite (.ret _) (.read _ _ fun _ _ => .ite (partFwd_typed p f _ _) (partBwd_typed p f _ _))
theorem partBwd_typed (p : List α → Bool) : ∀ (f : Nat) (lo hi : Int), (partBwd p f lo hi).Typed L
  | 0, _, _ => .ret _
  | f + 1, _, _ =>
    .ite (.ret _) (.read _ _ fun _ _ => .ite (.swap _ _ _ (partFwd_typed p f _ _)) (partBwd_typed p f _ _))
end

theorem partitionProg_typed (p : List α → Bool) (n : Nat) : (partitionProg p n).Typed L :=
  partFwd_typed L p (n + 1) _ _

theorem uniqueLoop_typed (eq : List α → List α → Bool) : ∀ (n : Nat) (d i : Int), (uniqueLoop eq n d i).Typed L
  | 0, _, _ => .ret _
  | n + 1, _, _ => .read _ _ fun _ _ => .read _ _ fun _ _ =>
    .ite (uniqueLoop_typed eq n _ _) (.assign _ _ _ (uniqueLoop_typed eq n _ _))

theorem uniqueFind_typed (eq : List α → List α → Bool) : ∀ (n : Nat) (i : Int), (uniqueFind eq n i).Typed L
  | 0, _ => .ret _
  | n + 1, _ => .read _ _ fun _ _ => .read _ _ fun _ _ => .ite (uniqueLoop_typed L eq n _ _) (uniqueFind_typed eq n _)

theorem uniqueProg_typed (eq : List α → List α → Bool) (n : Nat) : (uniqueProg eq n).Typed L :=
  .ite (.ret _) (uniqueFind_typed L eq _ _)

theorem andThen_typed (p k : Prog (List α)) (hp : p.Typed L) (hk : k.Typed L) : (p.andThen k).Typed L := by
  induction hp with
  | ret pos => exact hk
  | read i f _ ih => exact .read _ _ ih
  | write i x p hx _ ih => exact .write _ _ _ hx ih
  | assign i j p _ ih => exact .assign _ _ _ ih
  | swap i j p _ ih => exact .swap _ _ _ ih

theorem linInsert_typed (lt : List α → List α → Bool) (val : List α) (hv : val.length = L) (k : Prog (List α))
    (hk : k.Typed L) : ∀ (f : Nat) (j : Int), (linInsert lt val k f j).Typed L
  | 0, _ => .read _ _ fun _ _ => .ret _
  | f + 1, _ => .read _ _ fun _ _ => .ite (.assign _ _ _ (linInsert_typed lt val hv k hk f _)) (.write _ _ _ hv hk)

theorem insSortLoop_typed (lt : List α → List α → Bool) : ∀ (n : Nat) (i : Int), (insSortLoop lt n i).Typed L
  | 0, _ => .ret _
  | n + 1, _ => .read _ _ fun x hx => .read _ _ fun _ _ =>
    .ite (andThen_typed L _ _ (copyBackwardProg_typed _ _ _ _) (.write _ _ _ hx (insSortLoop_typed lt n _)))
      (linInsert_typed L lt x hx _ (insSortLoop_typed lt n _) _ _)

theorem insertionSortProg_typed (lt : List α → List α → Bool) (n : Nat) : (insertionSortProg lt n).Typed L :=
  .ite (.ret _) (insSortLoop_typed L lt _ _)

end Multi
