/-
  MultiProofs.BlasLevel1 — specifications of the level-1 operations on logical contents and their soundness for the
  reference semantics of xAXPY, xSCAL, xCOPY, xSWAP (positive increments).
-/
import MultiModel.Blas
import MultiProofs.BlasLemmas
import MultiProofs.BlasGemm

namespace Multi.Blas
variable {R : Type} [CRing R]

/-- y := alpha·x + y -/
structure AxpySpec (alpha : R) (x y : Vec) (mem mem' : Mem R) : Prop where
  elems : ∀ i : Int, 0 ≤ i → i < y.n → y.load mem' i = alpha * x.load mem i + y.load mem i
  frame : ∀ addr : Int, (¬ ∃ i : Int, 0 ≤ i ∧ i < y.n ∧ addr = y.addr i) → mem' addr = mem addr

/-- x := alpha·x -/
structure ScalSpec (alpha : R) (x : Vec) (mem mem' : Mem R) : Prop where
  elems : ∀ i : Int, 0 ≤ i → i < x.n → x.load mem' i = alpha * x.load mem i
  frame : ∀ addr : Int, (¬ ∃ i : Int, 0 ≤ i ∧ i < x.n ∧ addr = x.addr i) → mem' addr = mem addr

/-- y := x -/
structure CopySpec (x y : Vec) (mem mem' : Mem R) : Prop where
  elems : ∀ i : Int, 0 ≤ i → i < y.n → y.load mem' i = x.load mem i
  frame : ∀ addr : Int, (¬ ∃ i : Int, 0 ≤ i ∧ i < y.n ∧ addr = y.addr i) → mem' addr = mem addr

/-- x ↔ y (the two views do not overlap) -/
structure SwapSpec (x y : Vec) (mem mem' : Mem R) : Prop where
  ey : ∀ i : Int, 0 ≤ i → i < y.n → y.load mem' i = x.load mem i
  ex : ∀ i : Int, 0 ≤ i → i < x.n → x.load mem' i = y.load mem i
  frame : ∀ addr : Int, (¬ ∃ i : Int, 0 ≤ i ∧ i < y.n ∧ (addr = y.addr i ∨ addr = x.addr i)) → mem' addr = mem addr

/-! The calls are the ones the chains issue: (n, alpha, x.base, x.inc, y.base, y.inc) on plain views with positive increments. -/

section
variable {x y : Vec} {n : Int} {alpha : R} (hn : n = y.n) (hxc : x.cj = false) (hyc : y.cj = false) (hy1 : 1 ≤ y.inc) (mem : Mem R)
include hn hxc hyc hy1

theorem axpy_sound : AxpySpec alpha x y mem (L1Call.execAxpy ⟨n, alpha, x.base, x.inc, y.base, y.inc⟩ mem) := by
  subst hn
  constructor
  · intro i hi0 hi
    unfold Vec.load L1Call.execAxpy
    rw [hxc, hyc, cjIf_false, cjIf_false, cjIf_false, vecIndex_hit hi0 hi hy1]
  · intro addr hno
    unfold L1Call.execAxpy
    rw [vecIndex_none hno]

theorem copy_sound : CopySpec x y mem (L1Call.execCopy ⟨n, alpha, x.base, x.inc, y.base, y.inc⟩ mem) := by
  subst hn
  constructor
  · intro i hi0 hi
    unfold Vec.load L1Call.execCopy
    rw [hxc, hyc, cjIf_false, cjIf_false, vecIndex_hit hi0 hi hy1]
  · intro addr hno
    unfold L1Call.execCopy
    rw [vecIndex_none hno]

theorem swap_sound (hx1 : 1 ≤ x.inc) (hxy : x.n = y.n)
    (hdis : ∀ i j : Int, 0 ≤ i → i < x.n → 0 ≤ j → j < y.n → x.addr i ≠ y.addr j) :
    SwapSpec x y mem (L1Call.execSwap ⟨n, alpha, x.base, x.inc, y.base, y.inc⟩ mem) := by
  subst hn
  constructor
  · intro i hi0 hi
    unfold Vec.load L1Call.execSwap
    rw [hxc, hyc, cjIf_false, cjIf_false, vecIndex_hit hi0 hi hy1]
  · intro i hi0 hi
    unfold Vec.load L1Call.execSwap
    rw [hxc, hyc, cjIf_false, cjIf_false]
    have hny : vecIndex y.base y.inc y.n (x.base + i * x.inc) = none :=
      vecIndex_none fun ⟨j, hj0, hj, e⟩ => hdis i j hi0 hi hj0 hj e
    simp only [hny]
    rw [vecIndex_hit hi0 (hxy ▸ hi) hx1]
  · intro addr hno
    unfold L1Call.execSwap
    simp only [vecIndex_none fun ⟨i, hi0, hi, e⟩ => hno ⟨i, hi0, hi, .inl e⟩,
      vecIndex_none fun ⟨i, hi0, hi, e⟩ => hno ⟨i, hi0, hi, .inr e⟩]

end

theorem scal_sound {x : Vec} {n : Int} {alpha : R} {py iy : Int} (hn : n = x.n) (hxc : x.cj = false) (hx1 : 1 ≤ x.inc) (mem : Mem R) :
    ScalSpec alpha x mem (L1Call.execScal ⟨n, alpha, x.base, x.inc, py, iy⟩ mem) := by
  subst hn
  constructor
  · intro i hi0 hi
    unfold Vec.load L1Call.execScal
    rw [hxc, cjIf_false, cjIf_false, vecIndex_hit hi0 hi hx1]
  · intro addr hno
    unfold L1Call.execScal
    rw [vecIndex_none hno]

end Multi.Blas
