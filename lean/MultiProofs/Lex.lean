/-
  MultiProofs.Lex — lexicographic order on sequences: if `r` is a strict total order so is `listLex r`; hence
  `lexN lt n` is a strict total order on `n`-fold nested sequences whenever `lt` is one on the elements.
-/
import MultiProofs.StoreSpec

namespace Multi

theorem StrictTotal.ne {β : Type} {r : β → β → Bool} (h : StrictTotal r) {x y : β} (h1 : r x y = true) : x ≠ y :=
  fun e => absurd ((h.irrefl y).symm.trans (e ▸ h1)) Bool.false_ne_true

theorem StrictTotal.asymm {β : Type} {r : β → β → Bool} (h : StrictTotal r) {x y : β} (h1 : r x y = true) :
    r y x = false := by
  cases h2 : r y x with
  | false => rfl
  | true => exact absurd ((h.irrefl x).symm.trans (h.trans x y x h1 h2)) Bool.false_ne_true

theorem StrictTotal.trichotomy {β : Type} {r : β → β → Bool} (h : StrictTotal r) (x y : β) :
    (r x y = true ∧ x ≠ y ∧ r y x = false) ∨ (r x y = false ∧ x = y ∧ r y x = false) ∨
    (r x y = false ∧ x ≠ y ∧ r y x = true) := by
  cases hxy : r x y with
  | true => exact Or.inl ⟨rfl, h.ne hxy, h.asymm hxy⟩
  | false =>
    cases hyx : r y x with
    | true => exact Or.inr (Or.inr ⟨rfl, (h.ne hyx).symm, rfl⟩)
    | false => exact Or.inr (Or.inl ⟨rfl, h.total x y hxy hyx, rfl⟩)

theorem listLex_cons_iff {β : Type} {r : β → β → Bool} (h : StrictTotal r) (x y : β) (xs ys : List β) :
    listLex r (x :: xs) (y :: ys) = true ↔ r x y = true ∨ (x = y ∧ listLex r xs ys = true) := by
  rw [listLex]
  cases hxy : r x y with
  | true => simp
  | false =>
    cases hyx : r y x with
    | true => simp [(h.ne hyx).symm]
    | false => simp [h.total x y hxy hyx]

theorem listLex_irrefl {β : Type} {r : β → β → Bool} (h : StrictTotal r) : ∀ xs, listLex r xs xs = false := by
  intro xs
  induction xs with
  | nil => rfl
  | cons x xs ih => simp [listLex, h.irrefl x, ih]

theorem listLex_trans {β : Type} {r : β → β → Bool} (h : StrictTotal r) :
    ∀ xs ys zs, listLex r xs ys = true → listLex r ys zs = true → listLex r xs zs = true := by
  intro xs
  induction xs with
  | nil =>
    intro ys zs h1 h2
    match ys, zs, h1, h2 with
    | _ :: _, _ :: _, _, _ => rfl
  | cons x xs ih =>
    intro ys zs h1 h2
    match ys, zs, h1, h2 with
    | y :: ys, z :: zs, h1, h2 =>
      rw [listLex_cons_iff h] at h1 h2 ⊢
      rcases h1 with h1 | ⟨rfl, h1⟩ <;> rcases h2 with h2 | ⟨rfl, h2⟩
      · exact Or.inl (h.trans _ _ _ h1 h2)
      · exact Or.inl h1
      · exact Or.inl h2
      · exact Or.inr ⟨rfl, ih _ _ h1 h2⟩

theorem listLex_total {β : Type} {r : β → β → Bool} (h : StrictTotal r) :
    ∀ xs ys, listLex r xs ys = false → listLex r ys xs = false → xs = ys := by
  intro xs
  induction xs with
  | nil =>
    intro ys h1 h2
    match ys, h1 with
    | [], _ => rfl
  | cons x xs ih =>
    intro ys h1 h2
    match ys, h2, h1 with
    | y :: ys, h2, h1 =>
      rw [Bool.eq_false_iff, ne_eq, listLex_cons_iff h, not_or] at h1 h2
      have e : x = y := h.total x y (Bool.eq_false_iff.mpr h1.1) (Bool.eq_false_iff.mpr h2.1)
      subst e
      rw [ih ys (Bool.eq_false_iff.mpr fun c => h1.2 ⟨rfl, c⟩) (Bool.eq_false_iff.mpr fun c => h2.2 ⟨rfl, c⟩)]

theorem listLex_strictTotal {β : Type} {r : β → β → Bool} (h : StrictTotal r) : StrictTotal (listLex r) :=
  ⟨listLex_irrefl h, listLex_trans h, listLex_total h⟩

theorem lexN_strictTotal {α : Type} {lt : α → α → Bool} (h : StrictTotal lt) (n : Nat) : StrictTotal (lexN lt n) := by
  induction n with
  | zero => exact h
  | succ n ih => exact listLex_strictTotal ih

end Multi
