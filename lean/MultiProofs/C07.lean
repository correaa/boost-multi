/-
  C07 — Equality and ordering are deep, layout-independent and mutually consistent.
-/
import MultiProofs.StoreLemmas
import MultiProofs.Lex
import MultiProofs.LexLemmas

namespace Multi
namespace C07

variable {α : Type}

/-- `a == b` holds exactly when the extensions are equal (as the library compares them) and the elements at every
    index tuple are equal — whatever the two layouts -/
theorem eq_iff [DecidableEq α] (a b : View) (m : Mem α) (ha : a.lay.WF) (hb : b.lay.WF) (hne : a.lay ≠ [])
    (hlen : a.lay.length = b.lay.length) :
    ∃ r, a.eq b m = some r ∧
      (r = true ↔ (Exts.eqv a.exts b.exts = true ∧ ∀ idx, InBox a.exts idx → m (a.addr idx) = m (b.addr idx))) := by
  -- `hlen` is what lets `a == b` compile; the statement holds without it (`Exts.eqv` is false on lists of different length)
  have _ := hlen
  cases hl : a.lay with
  | nil => exact absurd hl hne
  | cons d sub =>
    simp only [View.eq, hl]
    cases hE : Exts.eqv a.exts b.exts with
    | false => exact ⟨false, by simp, by simp⟩
    | true =>
      have hexts : a.exts = b.exts := (Layout.exts_eqv_iff a.lay b.lay ha hb).1 hE
      refine ⟨_, (if_pos rfl).trans (ElemRange.eq_ofView a b m ha hb hexts), ?_⟩
      simp only [decide_eq_true_eq, mem_boxIndices, true_and]
      exact ⟨fun H idx h => (H idx h).symm, fun H idx h => (H idx h).symm⟩

/-- for well-formed views the library's comparison of extensions is plain equality of the extension lists -/
theorem exts_eqv_iff (a b : View) (ha : a.lay.WF) (hb : b.lay.WF) : Exts.eqv a.exts b.exts = true ↔ a.exts = b.exts :=
  Layout.exts_eqv_iff a.lay b.lay ha hb

/-- 0-D -/
theorem eq0_iff [DecidableEq α] (a b : View) (m : Mem α) (ha : a.lay = []) :
    a.eq b m = some (decide (m a.base = m b.base)) := by
  simp only [View.eq, ha]
  congr 1
  exact decide_eq_decide.mpr eq_comm

/-- `a != b` is always the negation of `a == b` -/
theorem ne_is_not_eq [DecidableEq α] (a b : View) (m : Mem α) :
    a.ne b m = (a.eq b m).map (fun r => !r) := by
  unfold View.ne View.eq
  cases a.lay with
  | nil => rfl
  | cons d sub =>
    cases Exts.eqv a.exts b.exts with
    | false => rfl
    | true => exact ElemRange.ne_eq_not_eq _ _ m

/-- `array_ref == array_ref` (flat comparison) agrees with the element-wise statement, and `!=` is its negation -/
theorem aref_eq_iff [DecidableEq α] (ba bb : Int) (ea eb : List Ext) (m : Mem α)
    (hea : ∀ e ∈ ea, e.first ≤ e.last) (heb : ∀ e ∈ eb, e.first ≤ e.last) (hlen : ea.length = eb.length) :
    let a : View := ⟨ba, Layout.ofExts ea⟩
    let b : View := ⟨bb, Layout.ofExts eb⟩
    (a.arefEq b m = true ↔ (a.exts = b.exts ∧ ∀ idx, InBox a.exts idx → m (a.addr idx) = m (b.addr idx))) ∧
    a.arefNe b m = !(a.arefEq b m) := by
  intro a b
  obtain ⟨wa, xa, _⟩ := C01.root_denotes ea hea
  obtain ⟨wb, xb, nb, _⟩ := C01.root_denotes eb heb
  have hxa : a.exts = collapse ea := xa
  have hnb : b.numElements = nElems eb := nb
  refine ⟨?_, by unfold View.arefNe View.arefEq; cases Exts.eqv a.exts b.exts <;> simp⟩
  unfold View.arefEq
  cases hE : Exts.eqv a.exts b.exts with
  | false => simp [mt (exts_eqv_iff a b wa wb).2 (by simp [hE])]
  | true =>
    have hexts : a.exts = b.exts := (exts_eqv_iff a b wa wb).1 hE
    have hcol : collapse ea = collapse eb := xa.symm.trans (hexts.trans xb)
    have hN : nElems ea = nElems eb := by rw [← nElems_collapse ea, hcol, nElems_collapse]
    simp only [Bool.not_true, Bool.false_eq_true, if_false, hexts, true_and, equalFlat_iff, hnb]
    by_cases h0 : nElems eb = 0
    · -- empty arrays: no index tuple, no position
      exact ⟨fun _ idx hidx => absurd (hN ▸ h0) (nElems_collapse ea ▸ nElems_ne_zero_of_inBox _ idx (hxa ▸ hexts ▸ hidx)), fun _ k k0 k1 => by omega⟩
    · -- otherwise the extensions are reported as given, so equal
      have he : ea = eb := by rw [← collapse_of_ne_zero ea (hN ▸ h0), hcol, collapse_of_ne_zero eb h0]
      subst he
      simp only [Int.toNat_of_nonneg (nElems_nonneg hea)]
      refine Iff.trans ?_ (root_forall ba bb ea hea fun x y => m x = m y).symm
      exact forall_congr' fun _ => imp_congr_right fun _ => imp_congr_right fun _ => eq_comm

/-- `a < b` is the lexicographic order, over the leading dimension recursively, of the nested sequences the two
    views denote (zero-based operands of equal dimensionality `n`, any layouts) -/
theorem lt_is_lex (ltE : α → α → Bool) (m : Mem α) (n : Nat) (a b : View)
    (ha : a.lay.WF) (hb : b.lay.WF) (hna : a.lay.length = n) (hnb : b.lay.length = n)
    (hza : a.lay.ZeroBased) (hzb : b.lay.ZeroBased) :
    a.lt ltE b m = lexN ltE n (toNested m n a.lay a.base) (toNested m n b.lay b.base) :=
  lexCompare_eq_lexN ltE m n a.lay b.lay a.base b.base ha hb hna hnb hza hzb

/-- `>` is `<` with the operands exchanged -/
theorem gt_is_lt_swapped (ltE : α → α → Bool) (m : Mem α) (a b : View) : a.gt ltE b m = b.lt ltE a m := rfl

/-- consequences of `lt_is_lex` and the list-level lemmas: `<` on views of dimensionality `n` is irreflexive and
    transitive, and for any two operands exactly one of `a < b`, `value a = value b`, `b < a` holds -/
theorem lt_irrefl (ltE : α → α → Bool) (hlt : StrictTotal ltE) (m : Mem α) (a : View) (ha : a.lay.WF) (hza : a.lay.ZeroBased) :
    a.lt ltE a m = false := by
  rw [lt_is_lex ltE m a.lay.length a a ha ha rfl rfl hza hza]
  exact (lexN_strictTotal hlt _).irrefl _

theorem lt_trans (ltE : α → α → Bool) (hlt : StrictTotal ltE) (m : Mem α) (a b c : View)
    (ha : a.lay.WF) (hb : b.lay.WF) (hc : c.lay.WF) (hab : a.lay.length = b.lay.length) (hbc : b.lay.length = c.lay.length)
    (hza : a.lay.ZeroBased) (hzb : b.lay.ZeroBased) (hzc : c.lay.ZeroBased)
    (h1 : a.lt ltE b m = true) (h2 : b.lt ltE c m = true) : a.lt ltE c m = true := by
  rw [lt_is_lex ltE m a.lay.length a b ha hb rfl hab.symm hza hzb] at h1
  rw [lt_is_lex ltE m a.lay.length b c hb hc hab.symm (hbc.symm.trans hab.symm) hzb hzc] at h2
  rw [lt_is_lex ltE m a.lay.length a c ha hc rfl (hbc.symm.trans hab.symm) hza hzc]
  exact (lexN_strictTotal hlt _).trans _ _ _ h1 h2

theorem lt_trichotomy (ltE : α → α → Bool) (hlt : StrictTotal ltE) (m : Mem α) (a b : View)
    (ha : a.lay.WF) (hb : b.lay.WF) (hab : a.lay.length = b.lay.length)
    (hza : a.lay.ZeroBased) (hzb : b.lay.ZeroBased) :
    let n := a.lay.length
    let va := toNested m n a.lay a.base
    let vb := toNested m n b.lay b.base
    (a.lt ltE b m = true ∧ va ≠ vb ∧ b.lt ltE a m = false) ∨
    (a.lt ltE b m = false ∧ va = vb ∧ b.lt ltE a m = false) ∨
    (a.lt ltE b m = false ∧ va ≠ vb ∧ b.lt ltE a m = true) := by
  intro n va vb
  rw [lt_is_lex ltE m n a b ha hb rfl hab.symm hza hzb, lt_is_lex ltE m n b a hb ha hab.symm rfl hzb hza]
  exact (lexN_strictTotal hlt n).trichotomy va vb

/-- consistency of the order with `==`: for non-empty operands the two views denote the same nested sequence exactly
    when `a == b` (for empty operands the library collapses to size 0 whatever the inner extents, the nested value
    is the empty sequence, and only `==`/`!=` consistency — `ne_is_not_eq` — is required) -/
theorem eq_iff_same_value [DecidableEq α] (m : Mem α) (a b : View)
    (ha : a.lay.WF) (hb : b.lay.WF) (hne : a.lay ≠ []) (hab : a.lay.length = b.lay.length)
    (hza : a.lay.ZeroBased) (hzb : b.lay.ZeroBased) (hnea : a.numElements ≠ 0) (hneb : b.numElements ≠ 0) :
    a.eq b m = some true ↔ toNested m a.lay.length a.lay a.base = toNested m a.lay.length b.lay b.base := by
  obtain ⟨r, hr, hiff⟩ := eq_iff a b m ha hb hne hab
  rw [toNested_eq_iff m a.lay.length a.lay b.lay a.base b.base ha hb rfl hab.symm hza hzb hnea hneb, hr,
    Option.some.injEq, hiff, exts_eqv_iff a b ha hb]
  simp only [addr_eq]
  exact Iff.rfl

/-- hence: exactly one of `a < b`, `a == b`, `b < a` for non-empty operands of equal dimensionality -/
theorem exactly_one [DecidableEq α] (ltE : α → α → Bool) (hlt : StrictTotal ltE) (m : Mem α) (a b : View)
    (ha : a.lay.WF) (hb : b.lay.WF) (hne : a.lay ≠ []) (hab : a.lay.length = b.lay.length)
    (hza : a.lay.ZeroBased) (hzb : b.lay.ZeroBased) (hnea : a.numElements ≠ 0) (hneb : b.numElements ≠ 0) :
    (a.lt ltE b m = true ∧ a.eq b m = some false ∧ b.lt ltE a m = false) ∨
    (a.lt ltE b m = false ∧ a.eq b m = some true ∧ b.lt ltE a m = false) ∨
    (a.lt ltE b m = false ∧ a.eq b m = some false ∧ b.lt ltE a m = true) := by
  have hsv := eq_iff_same_value m a b ha hb hne hab hza hzb hnea hneb
  obtain ⟨r, hr, _⟩ := eq_iff a b m ha hb hne hab
  have hfalse : toNested m a.lay.length a.lay a.base ≠ toNested m a.lay.length b.lay b.base → a.eq b m = some false := by
    intro h
    cases r with
    | false => exact hr
    | true => exact absurd (hsv.1 hr) h
  rcases lt_trichotomy ltE hlt m a b ha hb hab hza hzb with ⟨h1, h2, h3⟩ | ⟨h1, h2, h3⟩ | ⟨h1, h2, h3⟩
  · exact Or.inl ⟨h1, hfalse h2, h3⟩
  · exact Or.inr (Or.inl ⟨h1, hsv.2 h2, h3⟩)
  · exact Or.inr (Or.inr ⟨h1, hfalse h2, h3⟩)

/-- `<=` as coded is `<` or `==` (D = 1 evaluates `<` first and, where it holds, never evaluates `==`) -/
theorem le_is_lt_or_eq [DecidableEq α] (ltE : α → α → Bool) (m : Mem α) (a b : View) (hne : a.lay ≠ []) :
    a.le ltE b m = (a.eq b m).map (fun e => a.lt ltE b m || e) ∨ (a.lt ltE b m = true ∧ a.le ltE b m = some true) := by
  rcases a with ⟨base, lay⟩
  cases lay with
  | nil => exact absurd rfl hne
  | cons d sub =>
    cases sub with
    | nil =>
      simp only [View.le]
      cases h : View.lt ltE ⟨base, [d]⟩ b m with
      | true => right; simp
      | false => left; simp
    | cons d' sub =>
      left
      simp only [View.le]
      cases View.eq ⟨base, d :: d' :: sub⟩ b m with
      | none => simp
      | some e => simp [Bool.or_comm]

/-- the element order used by the harness (`int`, `<`) is a strict total order -/
example : StrictTotal (fun (x y : Int) => decide (x < y)) :=
  ⟨by intro x; simp, by intro x y z h1 h2; simp at h1 h2 ⊢; omega, by intro x y h1 h2; simp at h1 h2; omega⟩

/-- a 2x2 row-major array and the transpose of another one (different layouts, same dimensionality) satisfy every
    hypothesis of `lt_is_lex`, `eq_iff_same_value` and `exactly_one` -/
example (m : Mem Int) :
    let a : View := ⟨0, [⟨2, 0, 4⟩, ⟨1, 0, 2⟩]⟩
    let b : View := ⟨4, [⟨1, 0, 2⟩, ⟨2, 0, 4⟩]⟩
    (a.lay.WF ∧ b.lay.WF ∧ a.lay.length = 2 ∧ b.lay.length = 2 ∧ a.lay.ZeroBased ∧ b.lay.ZeroBased ∧
      a.lay ≠ [] ∧ a.numElements ≠ 0 ∧ b.numElements ≠ 0 ∧ a.exts = [⟨0, 2⟩, ⟨0, 2⟩] ∧ b.exts = [⟨0, 2⟩, ⟨0, 2⟩]) ∧
    toNested m 2 a.lay a.base = [[m 0, m 1], [m 2, m 3]] ∧
    toNested m 2 b.lay b.base = [[m 4, m 6], [m 5, m 7]] := by
  exact ⟨⟨by decide, by decide, rfl, rfl, by unfold Layout.ZeroBased; decide, by unfold Layout.ZeroBased; decide, by simp, by decide, by decide, by decide, by decide⟩, rfl, rfl⟩

end C07
end Multi
