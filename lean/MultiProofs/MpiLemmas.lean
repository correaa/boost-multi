/-
  MultiProofs.MpiLemmas — helper lemmas for C18: the ledger effect of the skeleton recursion as one invariant
  (`Ledger.Built`), the typemap the recursion builds, and its displacements.
-/
import MultiModel.Mpi
import MultiProofs.SerWalk

namespace Multi
namespace Mpi

theorem live_some {L : Ledger} {k : Nat} : L.live (some k) = true ↔ k < L.next ∧ (L.recs k).freed = 0 := by
  simp [Ledger.live]

/-- `L.Built L' h r`: `L'` arises from `L` by creating the datatypes `[L.next, L'.next)` without an erroneous call;
    `h` is one of them and has record `r`, every other one is a temporary that has been freed exactly once; the
    datatypes of `L` are untouched -/
structure Ledger.Built (L L' : Ledger) (h : Nat) (r : TypeRec) : Prop where
  lo : L.next ≤ h
  hi : h < L'.next
  errs : L'.errs = L.errs
  old : ∀ j, j < L.next → L'.recs j = L.recs j
  res : L'.recs h = r
  tmp : ∀ j, L.next ≤ j → j < L'.next → j ≠ h → (L'.recs j).freed = 1 ∧ (L'.recs j).builtin = false

/-- a new datatype made from valid arguments: the next handle, alive and uncommitted; nothing else changes -/
theorem create_built (L : Ledger) (tm : Typemap) (ok : Bool) (mk : Handle → Call) (hok : ok = true) :
    L.Built (L.create tm ok mk).1 L.next ⟨tm, false, false, 0⟩ := by
  subst hok
  exact ⟨Nat.le_refl _, Nat.lt_succ_self _, rfl, fun j hj => if_neg (Nat.ne_of_lt hj), if_pos rfl,
    fun j j1 j2 j3 => absurd (Nat.le_antisymm (Nat.le_of_lt_succ j2) j1) j3⟩

/-- `MPI_Type_free` of a live derived datatype -/
theorem free_spec (L : Ledger) (k : Nat) (hlive : L.live (some k) = true) (hb : (L.recs k).builtin = false) :
    (L.free (some k)).1.next = L.next ∧ (L.free (some k)).1.errs = L.errs ∧
    (∀ j, j ≠ k → (L.free (some k)).1.recs j = L.recs j) ∧
    (L.free (some k)).1.recs k = { L.recs k with freed := (L.recs k).freed + 1 } := by
  refine ⟨rfl, ?_, fun j hj => if_neg hj, if_pos rfl⟩
  simp [Ledger.free, hlive, hb]

/-- `MPI_Type_commit` of a live datatype -/
theorem commit_spec (L : Ledger) (k : Nat) (hlive : L.live (some k) = true) :
    (L.commit (some k)).next = L.next ∧ (L.commit (some k)).errs = L.errs ∧
    (∀ j, j ≠ k → (L.commit (some k)).recs j = L.recs j) ∧
    (L.commit (some k)).recs k = { L.recs k with committed := true } := by
  simp only [Ledger.commit, hlive, if_true]
  exact ⟨rfl, rfl, fun j hj => if_neg hj, if_pos rfl⟩

namespace Ledger.Built
variable {L L0 L' : Ledger} {h h0 : Nat} {r r0 : TypeRec}

theorem live (X : L.Built L' h r) (hr : r.freed = 0) : L'.live (some h) = true :=
  live_some.mpr ⟨X.hi, by rw [X.res, hr]⟩

/-- a construction on top of a construction whose result `h0` it frees at the end (the hvector inside one level; the
    sub-skeleton `sk` at the end of the constructor): `h0` joins the temporaries -/
theorem free_sub (X0 : L.Built L0 h0 r0) (hf : r0.freed = 0) (hb : r0.builtin = false) (X : L0.Built L' h r) :
    L.Built (L'.free (some h0)).1 h r := by
  have hrec : L'.recs h0 = r0 := by rw [X.old _ X0.hi, X0.res]
  have l0 : h0 < h := Nat.lt_of_lt_of_le X0.hi X.lo
  obtain ⟨f1, f2, f3, f4⟩ := free_spec L' h0 (live_some.mpr ⟨Nat.lt_trans l0 X.hi, by rw [hrec, hf]⟩) (by rw [hrec, hb])
  refine ⟨Nat.le_of_lt (Nat.lt_of_le_of_lt X0.lo l0), X.hi, by rw [f2, X.errs, X0.errs], fun j hj => ?_,
    by rw [f3 _ (Nat.ne_of_gt l0), X.res], fun j j1 j2 j3 => ?_⟩
  · have l1 : j < h0 := Nat.lt_of_lt_of_le hj X0.lo
    rw [f3 j (Nat.ne_of_lt l1), X.old j (Nat.lt_trans l1 X0.hi), X0.old j hj]
  · by_cases e0 : j = h0
    · rw [e0, f4, hrec, hf, hb]; exact ⟨rfl, rfl⟩
    · rw [f3 j e0]
      by_cases e1 : j < L0.next
      · rw [X.old j e1]; exact X0.tmp j j1 e1 e0
      · exact X.tmp j (Nat.le_of_not_lt e1) j2 j3

theorem keeps (X : L.Built L' h r) {t : Nat} (ht : L.live (some t) = true) :
    L'.live (some t) = true ∧ L'.recs t = L.recs t := by
  obtain ⟨t1, t2⟩ := live_some.mp ht
  have e := X.old t t1
  exact ⟨live_some.mpr ⟨Nat.lt_trans (Nat.lt_of_lt_of_le t1 X.lo) X.hi, by rw [e, t2]⟩, e⟩

/-- a call that is no error and changes at most the record of the result -/
theorem set (X : L.Built L' h r) {L'' : Ledger} {r' : TypeRec} (hn : L''.next = L'.next) (he : L''.errs = L'.errs)
    (ho : ∀ j, j ≠ h → L''.recs j = L'.recs j) (hr : L''.recs h = r') : L.Built L'' h r' :=
  ⟨X.lo, hn ▸ X.hi, he.trans X.errs, fun j hj => (ho j (Nat.ne_of_lt (Nat.lt_of_lt_of_le hj X.lo))).trans (X.old j hj), hr,
    fun j j1 j2 j3 => ho j j3 ▸ X.tmp j j1 (hn ▸ j2) j3⟩

theorem commit (X : L.Built L' h r) (hr : r.freed = 0) : L.Built (L'.commit (some h)) h { r with committed := true } := by
  obtain ⟨c1, c2, c3, c4⟩ := commit_spec L' h (X.live hr)
  exact X.set c1 c2 c3 (by rw [c4, X.res])

/-- passing the committed, live result to a communication call is no error and changes no record -/
theorem use (X : L.Built L' h r) (hr : r.freed = 0) (hc : r.committed = true) : L.Built (L'.use (some h)) h r :=
  X.set rfl (by simp [Ledger.use, X.live hr, X.res, hc]) (fun _ _ => rfl) X.res

/-- freeing the result at the end: every datatype created has then been freed exactly once -/
theorem free_res (X : L.Built L' h r) (hr : r.freed = 0) (hb : r.builtin = false) :
    (L'.free (some h)).1.errs = L.errs ∧ (∀ j, j < L.next → (L'.free (some h)).1.recs j = L.recs j) ∧
    ∀ j, L.next ≤ j → j < (L'.free (some h)).1.next → ((L'.free (some h)).1.recs j).freed = 1 := by
  obtain ⟨f1, f2, f3, f4⟩ := free_spec L' h (X.live hr) (by rw [X.res, hb])
  have Y := X.set f1 f2 f3 f4
  refine ⟨Y.errs, Y.old, fun j j1 j2 => ?_⟩
  by_cases e : j = h
  · rw [e, Y.res, X.res, hr]
  · exact (Y.tmp j j1 j2 e).1

end Ledger.Built

/-- one `{hvector; resized; free(hvector)}` block on a live sub-type: two new handles, the first freed once, the second
    (the result) alive and uncommitted — the resized datatype is built on top of the hvector, which is freed at the end -/
theorem level_spec (L : Ledger) (c st : Int) (hs : Nat) (hlive : L.live (some hs) = true) (hc : 0 ≤ c) :
    ∃ L3, Skeleton.level L c st (some hs) = (L3, some (L.next + 1)) ∧
      L.Built L3 (L.next + 1) ⟨Typemap.resized (Typemap.hvector c 1 st (L.recs hs).tm) 0 st, false, false, 0⟩ := by
  have X1 := create_built L (Typemap.hvector c 1 st (L.recs hs).tm) _ (Call.hvector c 1 st (some hs))
    (show (L.live (some hs) && decide (0 ≤ c) && decide ((0 : Int) ≤ 1)) = true by simp [hlive, hc])
  have X2 := create_built (L.hvector c 1 st (some hs)).1
    (Typemap.resized ((L.hvector c 1 st (some hs)).1.tmOf (some L.next)) 0 st) _ (Call.resized (some L.next) 0 st) (X1.live rfl)
  have X := X1.free_sub rfl rfl X2
  have e : (L.hvector c 1 st (some hs)).1.tmOf (some L.next) = Typemap.hvector c 1 st (L.recs hs).tm :=
    congrArg TypeRec.tm X1.res
  exact ⟨_, rfl, X.lo, X.hi, X.errs, X.old, X.res.trans (by rw [e]), X.tmp⟩

/-- the typemap that the skeleton recursion builds for a layout, from the element type's typemap `base`:
    level k is `resized(hvector(count_k, 1, stride_k·size, level k+1), 0, stride_k·size)` -/
def skelTm (base : Typemap) : Layout → Int → Typemap
  | [], _ => Typemap.empty
  | [d], c => Typemap.resized (Typemap.hvector c 1 (d.stride * base.size) base) 0 (d.stride * base.size)
  | d :: d1 :: rest, c =>
    Typemap.resized (Typemap.hvector c 1 (d.stride * base.size) (skelTm base (d1 :: rest) d1.size)) 0 (d.stride * base.size)

theorem build_built : ∀ (l : Layout) (d : Dim) (L : Ledger) (t : Nat) (c : Int), L.live (some t) = true → 0 ≤ c →
    (∀ x ∈ l, 0 ≤ x.size) →
    ∃ L' h, Skeleton.build L (some t) (d :: l) c = (L', ⟨d.size, some h⟩) ∧
      L.Built L' h ⟨skelTm (L.recs t).tm (d :: l) c, false, false, 0⟩
  | [], d, L, t, c, hlive, hc, _ => by
    obtain ⟨L3, e1, X⟩ := level_spec L c (d.stride * (L.recs t).tm.size) t hlive hc
    exact ⟨L3, L.next + 1, by simp only [Skeleton.build, Ledger.typeSize, Ledger.tmOf, e1, Skeleton.dtor, Skeleton.null], X⟩
  | d1 :: rest, d, L, t, c, hlive, hc, hsz => by
    obtain ⟨L0, h0, b1, X0⟩ := build_built rest d1 L t d1.size hlive (hsz d1 List.mem_cons_self)
      (fun x hx => hsz x (List.mem_cons_of_mem _ hx))
    have hsize : (L0.recs t).tm.size = (L.recs t).tm.size := by rw [X0.old t (live_some.mp hlive).1]
    obtain ⟨L3, e1, X⟩ := level_spec L0 c (d.stride * (L.recs t).tm.size) h0 (X0.live rfl) hc
    rw [X0.res] at X
    -- the moved-from temporary holds `MPI_DATATYPE_NULL`: its destructor does nothing; `sk`'s frees `h0`
    exact ⟨_, L0.next + 1,
      by simp only [Skeleton.build, b1, Skeleton.moveFrom, Skeleton.dtor, Ledger.typeSize, Ledger.tmOf, hsize, e1],
      X0.free_sub rfl rfl X⟩

theorem build_count (L : Ledger) (dt : Handle) (d : Dim) (l : Layout) (c : Int) :
    (Skeleton.build L dt (d :: l) c).2.count = d.size := by
  cases l <;> rfl

/-- **ledger effect of the private skeleton constructor.**  Run on any ledger in which the element datatype `t` is live,
    it adds handles `[L.next, L'.next)`: the returned one is alive, uncommitted and denotes `skelTm`; every other new one
    has been freed exactly once; no old record changes; no erroneous call is made (in particular the destructor of the
    moved-from temporary frees nothing). -/
theorem build_spec : ∀ (lay : Layout) (L : Ledger) (t : Nat) (c : Int), lay ≠ [] → L.live (some t) = true → 0 ≤ c →
    (∀ d ∈ lay.tail, 0 ≤ d.size) →
    ∃ L' h cnt, Skeleton.build L (some t) lay c = (L', ⟨cnt, some h⟩) ∧ L.next ≤ h ∧ h < L'.next ∧ L'.errs = L.errs ∧
      (∀ j, j < L.next → L'.recs j = L.recs j) ∧
      L'.recs h = ⟨skelTm (L.recs t).tm lay c, false, false, 0⟩ ∧
      (∀ j, L.next ≤ j → j < L'.next → j ≠ h → (L'.recs j).freed = 1 ∧ (L'.recs j).builtin = false) := by
  intro lay L t c hne hlive hc hsz
  cases lay with
  | nil => exact absurd rfl hne
  | cons d l =>
    obtain ⟨L', h, e, X⟩ := build_built l d L t c hlive hc hsz
    exact ⟨L', h, d.size, e, X.lo, X.hi, X.errs, X.old, X.res, X.tmp⟩

/-- an hvector with blocklength 1: copy j of the old typemap displaced by `j·stride` (the old extent plays no role) -/
theorem hvector_disps (c st : Int) (old : Typemap) :
    (Typemap.hvector c 1 st old).disps = (List.range c.toNat).flatMap fun (j : Nat) => old.disps.map (· + Int.ofNat j * st) := by
  have : (List.range (1 : Int).toNat) = [0] := rfl
  simp only [Typemap.hvector, Typemap.hvectorShifts, this, List.map_cons, List.map_nil, Int.ofNat_eq_natCast, Int.natCast_zero,
    Int.zero_mul, Int.add_zero, ← List.map_eq_flatMap, List.flatMap_map]

/-- the datatype of a level is made from the element type at the innermost level, else from the datatype of the inner levels -/
theorem skelTm_cons (base : Typemap) (d : Dim) (l : Layout) (c : Int) :
    skelTm base (d :: l) c = Typemap.resized (Typemap.hvector c 1 (d.stride * base.size)
      (match l with | [] => base | d1 :: rest => skelTm base (d1 :: rest) d1.size)) 0 (d.stride * base.size) := by
  cases l <;> rfl

theorem skelTm_extent (base : Typemap) (d : Dim) (l : Layout) (c : Int) :
    (skelTm base (d :: l) c).extent = d.stride * base.size := by
  rw [skelTm_cons, Typemap.extent, Typemap.resized]
  show 0 + d.stride * base.size - 0 = _
  rw [Int.zero_add, Int.sub_zero]

theorem skelTm_disps (sz : Int) : ∀ (l : Layout) (d : Dim) (c : Int),
    (skelTm (Typemap.basic sz) (d :: l) c).disps =
      (List.range c.toNat).flatMap fun (j : Nat) => l.canonOffs.map fun r => sz * (Int.ofNat j * d.stride + r)
  | l, d, c => by
    -- the sub-type's displacements are the canonical offsets of the inner levels, in bytes
    have sub : (match l with | [] => Typemap.basic sz | d1 :: rest => skelTm (Typemap.basic sz) (d1 :: rest) d1.size).disps =
        l.canonOffs.map (sz * ·) := by
      cases l with
      | nil => simp [Typemap.basic, Layout.canonOffs]
      | cons d1 rest => simp only [skelTm_disps sz rest d1 d1.size, Layout.canonOffs, List.map_flatMap, List.map_map]; rfl
    rw [skelTm_cons, Typemap.resized, hvector_disps, sub]
    simp only [List.map_map, Typemap.basic]
    congr 1; funext j
    apply List.map_congr_left
    intro r _
    simp only [Function.comp, Int.ofNat_eq_natCast]
    grind

/-- `count = size` copies of the top-level datatype (built with one repetition): the canonical offsets, in bytes -/
theorem message_disps (sz : Int) (d : Dim) (l : Layout) :
    (skelTm (Typemap.basic sz) (d :: l) 1).copies d.size = (Layout.canonOffs (d :: l)).map (sz * ·) := by
  unfold Typemap.copies
  rw [skelTm_extent, skelTm_disps]
  have : (List.range (1 : Int).toNat) = [0] := rfl
  simp only [this, List.flatMap_cons, List.flatMap_nil, List.append_nil, Typemap.basic, Layout.canonOffs, List.map_flatMap, List.map_map]
  congr 1; funext i
  apply List.map_congr_left
  intro r _
  simp only [Function.comp, Int.ofNat_eq_natCast, Int.natCast_zero]
  grind

end Mpi
end Multi
