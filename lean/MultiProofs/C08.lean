/-
  C08 — Every element is constructed once and destroyed once; storage is returned.

  The model (MultiModel.Ledger) executes every operation of the owning arrays as the sequence of
  micro-steps the C++ performs; a construction over a live object, a read / assignment / destruction of a dead one, a
  deallocate of a block that is not outstanding, has another size, or still holds live objects end the run in `Res.ub`.

  `Good c s` is the invariant: `Inv` (every non-empty live array points to an outstanding block of exactly its size all of
  whose cells are alive; every outstanding block has exactly one owner; a returned block holds no live object) and
  `num_elements()` agrees with `extensions()`.  "No `ub`" carries the rest of the property: `discipline_checked`.

  Hypotheses: `c.OK` (D ≥ 1; trivially default-constructible ⇒ trivially destructible) and `c.Fixed` (the tree contains the
  repairs F6, F7, F8 — the code as it stands; for the code before the repairs see C09.finding_*).
-/
import MultiProofs.LedgerLog

namespace Multi
namespace C08
open Ledger

/-- the empty pool over the empty heap satisfies the invariant -/
theorem inv_init (c : Cfg) (p : Nat) : Good c (initSt p) := good_init c p none

/-- every operation, as coded, without failures: runs to completion and re-establishes the invariant -/
theorem inv_step (c : Cfg) (hok : c.OK) (hfix : c.Fixed) (op : Op) (s : St) (hG : Good c s) (hnf : s.fuel = none)
    (happ : op.applicable c s = true) :
    ∃ s', op.run c s = .ok () s' ∧ Good c s' ∧ s'.fuel = none ∧ s'.arrs.length = s.arrs.length := by
  obtain ⟨s', hr, hG', hf, hl, _⟩ := (run_spec c hok op s hG happ (fixedIn_of_fixed hfix op)).ok hnf
  exact ⟨s', hr, hG', hf, hl⟩

/-- along every finite history of operations (inapplicable ones are skipped) the invariant holds, no exception is thrown,
    std::terminate is not called, and no step is undefined -/
theorem inv_history (c : Cfg) (hok : c.OK) (hfix : c.Fixed) (ops : List Op) :
    ∀ (s : St), Good c s → s.fuel = none → ∃ s', runHist c ops s = some s' ∧ Good c s' ∧ s'.fuel = none := by
  refine fun s hG hnf => runHist_invariant (P := fun s => Good c s ∧ s.fuel = none) ?_ s ⟨hG, hnf⟩
  intro op _ s hP happ
  obtain ⟨s', hr, hG', hf, _⟩ := inv_step c hok hfix op s hP.1 hP.2 happ
  rw [hr]
  exact ⟨hG', hf⟩

/-- when the last array has died nothing is outstanding: every block has been given back, and none holds a live object -/
theorem all_dead_nothing_outstanding (c : Cfg) (s : St) (hG : Good c s) (hdead : ∀ o ∈ s.arrs, o = none) :
    ∀ blk ∈ s.blocks, blk.freed = true ∧ FreedOK c blk := by
  intro blk hb
  obtain ⟨b, hB⟩ := List.mem_iff_getElem?.mp hb
  have hfr : blk.freed = true := by
    cases hf : blk.freed with
    | true => rfl
    | false =>
      have h1 := hG.1.owned b blk hB hf
      have h0 : owners s.arrs b = 0 := by
        apply owners_eq_zero
        intro k o hk
        have : o = none := hdead o (List.mem_iff_getElem?.mpr ⟨k, hk⟩)
        subst this; rfl
      omega
  exact ⟨hfr, hG.1.freed b blk hB hfr⟩

/-- the shape of a guarded micro-step on block `b`: it returns normally only if the block exists and the guard is off -/
theorem ok_of_guard {α : Type} {s s' : St} {b : Nat} {guard : Block → Bool} {f : Block → Res α} {a : α}
    (h : (match s.blocks[b]? with
      | none => Res.ub s
      | some blk => if guard blk = true then Res.ub s else f blk) = .ok a s') :
    ∃ blk, s.blocks[b]? = some blk ∧ guard blk = false := by
  split at h
  · cases h
  · rename_i blk hB
    split at h
    · cases h
    · rename_i hg
      exact ⟨blk, hB, Bool.eq_false_iff.mpr hg⟩

/-- the lifetime discipline is what the micro-steps check: each succeeds only
    (1) a construction: on a raw cell of an outstanding block,
    (2) an assignment: on a live object (for trivial element types: any cell) of an outstanding block,
    (3) a destruction: on a live object of an outstanding block,
    (4) a deallocate of `n > 0` elements: on an outstanding block allocated with exactly `n` elements that holds no live object
        (unless the element type is trivially destructible);
    otherwise the run ends in `ub` — which `inv_history` excludes. -/
theorem discipline_checked (c : Cfg) (s s' : St) (b off : Nat) :
    (ctorCell c b off s = .ok () s' → ∃ blk, s.blocks[b]? = some blk ∧ blk.freed = false ∧ blk.cells[off]? = some Cell.raw) ∧
    (assignCell c b off s = .ok () s' → ∃ blk, s.blocks[b]? = some blk ∧ blk.freed = false ∧
        (blk.cells[off]? = some Cell.live ∨ (c.trivCtor = true ∧ blk.cells[off]? = some Cell.raw))) ∧
    (dtorCell b off s = .ok () s' → ∃ blk, s.blocks[b]? = some blk ∧ blk.freed = false ∧ blk.cells[off]? = some Cell.live) ∧
    (∀ a n, 0 < n → deallocate c a (some b) n s = .ok () s' → ∃ blk, s.blocks[b]? = some blk ∧ blk.freed = false ∧ blk.size = n ∧
        (c.trivDtor = true ∨ ∀ x ∈ blk.cells, x = Cell.raw)) := by
  refine ⟨fun h => ?_, fun h => ?_, fun h => ?_, fun a n hn h => ?_⟩
  · unfold ctorCell at h
    obtain ⟨blk, hB, hc⟩ := ok_of_guard h
    simp only [Bool.or_eq_false_iff, bne_eq_false_iff_eq] at hc
    exact ⟨blk, hB, hc⟩
  · unfold assignCell at h
    obtain ⟨blk, hB, hc⟩ := ok_of_guard h
    simp only [Bool.or_eq_false_iff, Bool.not_eq_false', Bool.or_eq_true, Bool.and_eq_true, beq_iff_eq] at hc
    exact ⟨blk, hB, hc⟩
  · unfold dtorCell at h
    obtain ⟨blk, hB, hc⟩ := ok_of_guard h
    simp only [Bool.or_eq_false_iff, bne_eq_false_iff_eq] at hc
    exact ⟨blk, hB, hc⟩
  · unfold deallocate at h
    rw [if_neg (Nat.ne_of_gt hn)] at h
    obtain ⟨blk, hB, hc⟩ := ok_of_guard h
    simp only [Bool.or_eq_false_iff, bne_eq_false_iff_eq, Bool.not_eq_false', Bool.or_eq_true, List.all_eq_true, beq_iff_eq] at hc
    exact ⟨blk, hB, hc.1.1, hc.1.2, hc.2⟩

/-- sizing constructors and `reextent` without a fill value do not write to elements of trivially default-constructible
    types: whatever the outcome of `array(extensions, alloc)`, `reextent(extensions) &` and `reextent(extensions) &&`, the
    ledger gains no element construction (the only other cell writes of `reextent &` are the assignments that carry the
    preserved elements over) -/
theorem trivial_no_write (c : Cfg) (htriv : c.trivCtor = true) :
    (∀ i a es, NoCtor ((Op.ctorExt i a es).run c)) ∧
    (∀ i es, NoCtor ((Op.reextent i es).run c)) ∧
    (∀ i es, NoCtor ((Op.reextentRv i es).run c)) := by
  have hq := quiet_ctor
  have ha := isCtor_alloc
  refine ⟨?_, ?_, ?_⟩
  · intro i a es
    show NoCtor (ctorWith c i a es (!c.trivCtor) 0)
    rw [htriv]
    unfold ctorWith
    exact NoEv.bind (NoEv.build_false ha c _ _ _) (fun p => NoEv.setSlot _ _)
  · intro i es
    refine NoEv.withArr i fun x => ?_
    simp only [htriv, Bool.not_true, Bool.or_false, Bool.false_eq_true, if_false]
    apply NoEv.ite (NoEv.pure ())
    apply NoEv.ite
    · apply NoEv.bind (NoEv.buildSafe_false ha c _ _)
      intro p
      apply NoEv.bind
      · apply NoEv.tryCatch
        · exact NoEv.bind (NoEv.readCells c _ _) (fun _ => NoEv.assignAll hq c _ _)
        · exact NoEv.bind (NoEv.destroyAll hq c _ _) (fun _ => NoEv.bind (NoEv.deallocate hq c _ _ _) (fun _ => NoEv.rethrow))
      · intro _
        apply NoEv.bind (NoEv.pure p)
        intro q
        exact NoEv.bind (NoEv.destroyAll hq c _ _) (fun _ => NoEv.bind (NoEv.deallocate hq c _ _ _) (fun _ => NoEv.setSlot _ _))
    · apply NoEv.bind (NoEv.allocate ha _ _)
      intro p
      apply NoEv.bind (NoEv.readCells c _ _)
      intro _
      apply NoEv.bind (NoEv.assignAll hq c _ _)
      intro _
      apply NoEv.bind (NoEv.pure p)
      intro q
      exact NoEv.bind (NoEv.destroyAll hq c _ _) (fun _ => NoEv.bind (NoEv.deallocate hq c _ _ _) (fun _ => NoEv.setSlot _ _))
  · intro i es
    refine NoEv.withArr i fun x => ?_
    simp only [htriv, Bool.not_true, Bool.false_eq_true, if_false]
    apply NoEv.ite (NoEv.pure ())
    apply NoEv.ite
    · apply NoEv.bind (NoEv.clearArr hq c i x)
      intro x1
      apply NoEv.bind (NoEv.buildSafe_false ha c _ _)
      intro p
      exact NoEv.setSlot _ _
    · apply NoEv.bind (NoEv.destroyAll hq c _ _)
      intro _
      apply NoEv.bind (NoEv.deallocate hq c _ _ _)
      intro _
      apply NoEv.bind (NoEv.setSlot _ _)
      intro _
      apply NoEv.bind (NoEv.allocate ha _ _)
      intro p
      exact NoEv.setSlot _ _

/-! ### non-vacuity: the hypotheses are satisfiable, the invariant is not trivially true -/

/-- the configuration of the instrumented element type with all repairs in the tree -/
def cfgE : Cfg := { dim := 2, fx6 := true, fx7 := true, fx8 := true, fx9 := true }

example : cfgE.OK := ⟨(by intro h; cases h), (by decide)⟩
example : cfgE.Fixed := ⟨rfl, rfl, rfl⟩

/-- a concrete history: fill-construct, copy-construct, copy-assign to different extents, reextent, destroy everything -/
def sampleHist : List Op :=
  [.ctorFill 0 1 [⟨0, 2⟩, ⟨0, 3⟩], .ctorCopy 1 0, .ctorExt 2 2 [⟨0, 1⟩, ⟨0, 2⟩], .assignCopy 2 0, .reextent 0 [⟨0, 3⟩, ⟨0, 2⟩],
   .dtor 0, .dtor 1, .dtor 2]

example : ((runHist cfgE sampleHist (initSt 4)).map fun s => (s.blocks.length, s.blocks.all (·.freed), s.arrs)) =
    some (5, true, [none, none, none, none]) := by decide +kernel

/-- an element type with non-trivial (logged) default construction and a trivial destructor — the only mixed combination
    `c.OK` admits besides the two pure ones; `inv_step`, `inv_history`, `discipline_checked` hold for it as for every `c.OK` -/
def cfgSemi : Cfg := { cfgE with trivDtor := true }
example : cfgSemi.OK := ⟨(by intro h; cases h), (by decide)⟩
/-- `reextent` value-constructs the new elements of such a type (its cells are alive afterwards although nothing is ever destroyed) -/
example : ((runHist cfgSemi [.ctorFill 0 1 [⟨0, 2⟩, ⟨0, 1⟩], .reextent 0 [⟨0, 3⟩, ⟨0, 1⟩]] (initSt 4)).map fun s =>
    s.blocks.map fun b => (b.freed, b.cells)) =
    some [(true, [Cell.live, Cell.live]), (false, [Cell.live, Cell.live, Cell.live])] := by decide +kernel
/-- assigning to a cell that was never constructed is undefined for such a type (what skipping that value construction leads to) -/
example : (match assignCell cfgSemi 0 0 { blocks := [freshBlock 1 2] } with | .ub _ => true | _ => false) = true := by decide +kernel

/-- `array<T, 0>` is run through the same executable model with `dim = 0` (`nElems [] = 1`: one block of one element).  The
    theorems above do NOT cover it: they assume `c.OK`, i.e. `1 ≤ c.dim` (an emptied array must report 0 elements, and
    `nElems (emptyExts 0) = 1`).  For the six 0-D forms the harness runs (no form leaves an empty array) the model is the
    executable reference of the correspondence only.  A concrete 0-D history: construct from an element, copy-construct,
    copy-assign, destroy both — two blocks of one element, both returned -/
def cfgE0 : Cfg := { cfgE with dim := 0 }
example : ¬ cfgE0.OK := fun h => absurd h.dim (by decide)
example : ((runHist cfgE0 [.ctorFill 0 1 [], .ctorCopy 1 0, .assignCopy 0 1, .dtor 0, .dtor 1] (initSt 4)).map fun s =>
    (s.blocks.map fun b => (b.size, b.freed), s.arrs)) = some ([(1, true), (1, true)], [none, none, none, none]) := by decide +kernel

/-- the invariant is falsifiable: a block nobody owns violates it -/
example : ¬ Good cfgE { blocks := [freshBlock 1 2], arrs := [none] } := by
  intro h
  have := h.1.owned 0 (freshBlock 1 2) rfl rfl
  revert this
  decide

end C08
end Multi
