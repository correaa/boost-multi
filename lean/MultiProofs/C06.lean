/-
  C06 — reextent keeps the common part; clear, reshape and assign do what they say.

  Property theorems only (vocabulary: see C04.lean / OwnSpec.lean / OwnStep.lean).
-/
import MultiProofs.OwnStep

namespace Multi
namespace C06
open Own
variable {α : Type}

/-- **new extents are `x`**: every `reextent` overload, from any valid array, yields an array built for `x`; it reports `collapse x`
    (`x` itself unless some extent of `x` is empty, in which case the array is empty) and has `Π sizes of x` elements -/
theorem reextent_extents (cfg : Cfg α) (h : Heap α) (a : Arr) (hv : Valid h a) (x : List Ext) (hx : ExtsOK x) (fill : Option α) :
    (reextent cfg h a x fill).2.exts = collapse x ∧ (reextent cfg h a x fill).2.numElements = nElems x ∧
    (reextentMoved cfg h a x).2.exts = collapse x ∧ (reextentMoved cfg h a x).2.numElements = nElems x := by
  have same : Exts.eqv x a.exts = true → a.exts = collapse x ∧ a.numElements = nElems x := by
    intro he
    have e := hv.collapse_of_eqv he
    exact ⟨e.symm, by rw [← hv.nElems_exts, ← e, nElems_collapse]⟩
  unfold reextent reextentMoved
  by_cases he : Exts.eqv x a.exts = true
  · simp only [he, if_true]
    exact ⟨(same he).1, (same he).2, (same he).1, (same he).2⟩
  · simp only [he, Bool.false_eq_true, if_false]
    exact ⟨ofExts_exts hx, ofExts_numElements hx, ofExts_exts hx, ofExts_numElements hx⟩

/-- **reextent to the current extensions keeps everything**: the heap, the block and the layout are the same objects, so `data_elements()`,
    iterators and views taken before remain valid (all three overloads) -/
theorem reextent_noop (cfg : Cfg α) (h : Heap α) (a : Arr) (x : List Ext) (fill : Option α) (hx : Exts.eqv x a.exts = true) :
    reextent cfg h a x fill = (h, a) ∧ reextentMoved cfg h a x = (h, a) := by
  constructor
  · exact reextent_same cfg h a x fill hx
  · unfold reextentMoved; simp [hx]

/-- and at pool level: the step is the identity -/
theorem reextent_noop_pool (cfg : Cfg α) (p : Pool α) (k : Nat) (a : Arr) (ha : p.arrs k = some a) (x : List Ext) (fill : Option α)
    (hx : Exts.eqv x a.exts = true) : step cfg p (.reextSame k x fill) = p := by
  simp only [step, ha, reextent_same cfg p.heap a x fill hx]
  exact Pool.set_same p ha

/-- **`std::move(A).reextent(x)`**: extensions `x`; every element is value-initialised (indeterminate for a trivially default
    constructible `T`); nothing else in the pool changes; for the current extensions nothing changes at all -/
theorem reextent_moved_law (cfg : Cfg α) (p : Pool α) (hi : Inv p) (k : Nat) (a : Arr) (ha : p.arrs k = some a) (x : List Ext) (hx : ExtsOK x) :
    let p1 := step cfg p (.reextm k x)
    Inv p1 ∧ (∀ j, j ≠ k → absPool p1 j = absPool p j) ∧
    absPool p1 k = some (if Exts.eqv x a.exts = true then absArr p.heap a else ⟨collapse x, List.replicate (nElems x).toNat (initCell cfg)⟩) := by
  obtain ⟨i1, ek, eo⟩ := step_slot cfg p hi (.reextm k x) ⟨a, ha, hx⟩ rfl
  exact ⟨i1, eo, ek.trans (by rw [absPool_some ha]; rfl)⟩

/-- **the law of `reextent(x)` / `reextent(x, v)` on an lvalue, values.**  For an array of dimensionality ≥ 1 in a pool satisfying the
    invariant, any well-formed `x` of the same dimensionality and any prior state: the invariant holds afterwards, no other array's value
    changes, and the array's value is: unchanged if `x` are the current extensions, otherwise `reextVal` — extensions `x` (collapsed), at
    every index tuple of `x` the old element if the tuple lies in the old extensions, the fill value `v` (resp. the value-initialised
    cell, or an indeterminate one for a trivially default constructible `T`) otherwise. -/
theorem reextent_law_values (cfg : Cfg α) (p : Pool α) (hi : Inv p) (k : Nat) (a : Arr) (ha : p.arrs k = some a) (x : List Ext) (hx : ExtsOK x)
    (hlen : x.length = a.dim) (hD : a.dim ≠ 0) (fill : Option α) :
    let p1 := step cfg p (.reext k x fill)
    Inv p1 ∧ (∀ j, j ≠ k → absPool p1 j = absPool p j) ∧
    absPool p1 k = some (if Exts.eqv x a.exts = true then absArr p.heap a else reextVal cfg (absArr p.heap a) x fill) := by
  obtain ⟨i1, ek, eo⟩ := step_slot cfg p hi (.reext k x fill) ⟨a, ha, hx, hlen, hD⟩ rfl
  exact ⟨i1, eo, ek.trans (by rw [absPool_some ha]; rfl)⟩

/-- **the law of `reextent`, element by element** (what the property says): after `A.reextent(x)` / `A.reextent(x, v)`
    * the array reports the extensions `x` (collapsed: all `[0,0)` if some extent of `x` is empty),
    * every element whose index tuple lies in both the old and the new extensions keeps its value,
    * every other element equals the fill cell (`v`; without `v`: `T{}`, or indeterminate for a trivially default constructible `T`),
    * the pool invariant holds (the array is valid, owns a block no other array owns) and no other array changes. -/
theorem reextent_law (cfg : Cfg α) (p : Pool α) (hi : Inv p) (k : Nat) (a : Arr) (ha : p.arrs k = some a) (x : List Ext) (hx : ExtsOK x)
    (hlen : x.length = a.dim) (hD : a.dim ≠ 0) (fill : Option α) :
    let p1 := step cfg p (.reext k x fill)
    Inv p1 ∧ (∀ j, j ≠ k → absPool p1 j = absPool p j) ∧
    ∃ a', p1.arrs k = some a' ∧ a'.exts = collapse x ∧
      (∀ idx, InBox (collapse x) idx → InBox a.exts idx → readAt p1.heap a' idx = readAt p.heap a idx) ∧
      (∀ idx, InBox (collapse x) idx → ¬ InBox a.exts idx → readAt p1.heap a' idx = some (fillCell cfg fill)) := by
  intro p1
  obtain ⟨i1, hoth, hval⟩ := reextent_law_values cfg p hi k a ha x hx hlen hD fill
  have hva := hi.valid k a ha
  have ha' : p1.arrs k = some (reextent cfg p.heap a x fill).2 := by
    show (step cfg p (.reext k x fill)).arrs k = _
    simp only [step, ha]; exact upd_same _ _ _
  have hva' := i1.valid k _ ha'
  obtain ⟨hex, hel⟩ := reextSpec_at cfg hva hx fill (Option.some.inj ((absPool_some ha').symm.trans hval))
  refine ⟨i1, hoth, _, ha', hex, fun idx hin hia => ?_, fun idx hin hnot => ?_⟩
  · rw [(readAt_valid hva' (hex ▸ hin)).1, hex, hel idx hin, if_pos hia, (readAt_valid hva hia).1,
      List.getElem?_eq_getElem (readAt_valid hva hia).2]
    rfl
  · rw [(readAt_valid hva' (hex ▸ hin)).1, hex, hel idx hin, if_neg hnot]

/-- **`clear()` (and `A = {}`) leave an empty valid array**; the other arrays keep their values -/
theorem clear_empty (cfg : Cfg α) (p : Pool α) (hi : Inv p) (k : Nat) (a : Arr) (ha : p.arrs k = some a) (hD : a.dim ≠ 0) :
    let p1 := step cfg p (.clear k)
    Inv p1 ∧ absPool p1 k = some (emptyVal a.dim) ∧ (∀ j, j ≠ k → absPool p1 j = absPool p j) ∧
    ilAssign p.heap a 0 [] ([] : List α) = clear p.heap a := by
  obtain ⟨i1, ek, eo⟩ := step_slot cfg p hi (.clear k) ⟨a, ha, hD⟩ rfl
  exact ⟨i1, ek.trans (by rw [absPool_some ha]; exact congrArg (some ∘ emptyVal) (exts_length a)), eo, if_pos rfl⟩

/-- **`reshape` to extensions with the same element count preserves the flat element sequence** and the storage -/
theorem reshape_flat (cfg : Cfg α) (p : Pool α) (hi : Inv p) (k : Nat) (a : Arr) (ha : p.arrs k = some a) (es : List Ext) (hes : ExtsOK es)
    (hn : nElems es = a.numElements) :
    let p1 := step cfg p (.reshape k es)
    Inv p1 ∧ p1.heap = p.heap ∧ absPool p1 k = some ⟨collapse es, (absArr p.heap a).elems⟩ ∧
    (∀ j, j ≠ k → absPool p1 j = absPool p j) ∧ (reshape p.heap a es).2.base = a.base := by
  obtain ⟨i1, ek, eo⟩ := step_slot cfg p hi (.reshape k es) ⟨a, ha, hes, hn⟩ rfl
  refine ⟨i1, ?_, ek.trans (by rw [absPool_some ha]; rfl), eo, rfl⟩
  show (step cfg p (.reshape k es)).heap = p.heap
  simp only [step, ha, Pool.set_heap, Pool.withHeap_heap, reshape_eq p.heap hes hn]

/-- **`assign(extensions, v)` produces exactly the requested contents**, whatever the prior state -/
theorem assign_exact (cfg : Cfg α) (p : Pool α) (hi : Inv p) (k : Nat) (a : Arr) (ha : p.arrs k = some a) (hD : a.dim ≠ 0) (es : List Ext)
    (hes : ExtsOK es) (v : α) :
    let p1 := step cfg p (.assignf k es v)
    Inv p1 ∧ absPool p1 k = some ⟨collapse es, List.replicate (nElems es).toNat (some v)⟩ ∧ (∀ j, j ≠ k → absPool p1 j = absPool p j) := by
  exact step_slot cfg p hi (.assignf k es v) ⟨a, ha, hD, hes⟩ rfl

/-- **contents from a range / nested initializer list**: the array built from `count` sub-arrays of extensions `inner` and the values
    `vals` (in order) has exactly these extensions and elements; `assign(first,last)` / `operator=(initializer_list)` with another shape
    is this construction followed by a move assignment (`C04.move_assign_leaves_empty_valid`), an empty initializer list is `clear` -/
theorem assign_range_exact (cfg : Cfg α) (p : Pool α) (hi : Inv p) (k : Nat) (hk : p.arrs k = none) (count : Int) (inner : List Ext)
    (vals : List α) (hes : ExtsOK (rangeExts count inner)) (hlen : (vals.length : Int) = nElems (rangeExts count inner)) :
    let p1 := step cfg p (.range k count inner vals)
    Inv p1 ∧ absPool p1 k = some ⟨collapse (rangeExts count inner), vals.map some⟩ ∧
    (∀ (h : Heap α) (self : Arr), ¬ (count = self.view.size ∧ (count = 0 ∨ Exts.eqv inner (self.view.index self.view.ext.first).exts = true)) →
      assignRange h self count inner vals =
        (dtor (moveAssign (rangeCtor h count inner vals).1 self (rangeCtor h count inner vals).2).1
              (moveAssign (rangeCtor h count inner vals).1 self (rangeCtor h count inner vals).2).2.2,
         (moveAssign (rangeCtor h count inner vals).1 self (rangeCtor h count inner vals).2).2.1)) := by
  obtain ⟨i1, ek, _⟩ := step_slot cfg p hi (.range k count inner vals) ⟨hk, hes, hlen⟩ rfl
  exact ⟨i1, ek, fun h self hcond => assignRange_rebuild h self count inner vals hcond⟩

/-- **`assign(first,last)` and assignment from an initializer list produce exactly the requested contents**, over any prior state, in
    place (same rows and inner extensions: block and index bases kept) or not; `A = {}` clears; no other array changes -/
theorem assign_list_exact (cfg : Cfg α) (p : Pool α) (hi : Inv p) (k : Nat) (a : Arr) (ha : p.arrs k = some a) (hD : a.dim ≠ 0)
    (count : Int) (inner : List Ext) (vals : List α) (hes : ExtsOK (rangeExts count inner))
    (hlen : (vals.length : Int) = nElems (rangeExts count inner)) :
    let p1 := step cfg p (.assignr k count inner vals)
    let p2 := step cfg p (.ilassign k count inner vals)
    Inv p1 ∧ Inv p2 ∧ (∀ j, j ≠ k → absPool p1 j = absPool p j ∧ absPool p2 j = absPool p j) ∧
    absPool p1 k = some (listVal (absArr p.heap a) count inner vals) ∧ (listVal (absArr p.heap a) count inner vals).elems = vals.map some ∧
    absPool p2 k = some (if count = 0 then emptyVal a.dim else listVal (absArr p.heap a) count inner vals) := by
  obtain ⟨i1, e1, o1⟩ := step_slot cfg p hi (.assignr k count inner vals) ⟨a, ha, hD, hes, hlen⟩ rfl
  obtain ⟨i2, e2, o2⟩ := step_slot cfg p hi (.ilassign k count inner vals) ⟨a, ha, hD, hes, hlen⟩ rfl
  refine ⟨i1, i2, fun j hj => ⟨o1 j hj, o2 j hj⟩, e1.trans (by rw [absPool_some ha]; rfl), ?_,
    e2.trans (by rw [absPool_some ha, ← exts_length a]; rfl)⟩
  unfold listVal; split <;> rfl

/-- `A(2×3, 7)`; `A.reshape(3×2)`; `A.assign(1×2 based at 5, 4)`; `A.clear()` — values as documented -/
example :
    let cfg : Cfg Int := ⟨false, 0⟩
    let ops : List (VOp Int) := [.fill 0 [⟨0, 2⟩, ⟨0, 3⟩] 7, .reshape 0 [⟨0, 3⟩, ⟨0, 2⟩], .assignf 0 [⟨5, 6⟩, ⟨0, 2⟩] 4]
    specRun cfg (fun _ => none) ops 0 = some ⟨[⟨5, 6⟩, ⟨0, 2⟩], [some 4, some 4]⟩ ∧
    specRun cfg (fun _ => none) (ops ++ [.clear 0]) 0 = some ⟨[⟨0, 0⟩, ⟨0, 0⟩], []⟩ := by
  constructor <;> rfl

/-- the documented value of a concrete reextent: 2×3 (all 7, one 9) → 3×2 with fill 5 keeps the common 2×2 block and fills the rest;
    with index bases: [1,3)×[0,2) → [0,2)×[1,3) keeps the single common element (1,1) -/
example :
    let cfg : Cfg Int := ⟨true, 0⟩
    let r1 := specRun cfg (fun _ => none) [.fill 0 [⟨0, 2⟩, ⟨0, 3⟩] 7, .write 0 [1, 1] 9, .reext 0 [⟨0, 3⟩, ⟨0, 2⟩] (some 5)] 0
    let r2 := specRun cfg (fun _ => none) [.fill 0 [⟨1, 3⟩, ⟨0, 2⟩] 7, .write 0 [1, 1] 9, .reext 0 [⟨0, 2⟩, ⟨1, 3⟩] none] 0
    r1.map (·.exts) = some [⟨0, 3⟩, ⟨0, 2⟩] ∧ r1.map (·.elems) = some [some 7, some 7, some 7, some 9, some 5, some 5] ∧
    r2.map (·.exts) = some [⟨0, 2⟩, ⟨1, 3⟩] ∧ r2.map (·.elems) = some [none, none, some 9, none] := by
  decide +kernel

/-- the hypotheses of `reextent_law` are satisfiable: the history above is in domain from the empty pool -/
example : InDomAll (⟨true, 0⟩ : Cfg Int) Pool.empty [.fill 0 [⟨0, 2⟩, ⟨0, 3⟩] 7, .reext 0 [⟨0, 3⟩, ⟨0, 2⟩] (some 5)] :=
  ⟨⟨rfl, by unfold ExtsOK; decide⟩, ⟨_, rfl, by unfold ExtsOK; decide, rfl, by decide⟩, trivial⟩

/-- the model on a concrete reextent: 2×3 → 3×2 keeps the common 2×2 block and fills the rest -/
example :
    let cfg : Cfg Int := ⟨true, 0⟩
    let r0 := fillCtor ({} : Heap Int) [⟨0, 2⟩, ⟨0, 3⟩] 7
    let h1 := writeAt r0.1 r0.2 [1, 1] 9
    let r := reextent cfg h1 r0.2 [⟨0, 3⟩, ⟨0, 2⟩] (some 5)
    elems r.1 r.2 = [some (some 7), some (some 7), some (some 7), some (some 9), some (some 5), some (some 5)] := by
  decide +kernel

end C06
end Multi
