/-
  MultiProofs.ElemIter — the zero-based copy of a layout that `elements_range_t` holds (its extensions, sizes and
  displacements), and the invariant `GoodIt` of the elements iterator: its state is the one the constructor produces
  for its linear position (`ns_ = from_linear(n_)`), so the position determines the state.  The constructor
  establishes the invariant and `++` keeps it; the other operations and the laws are in C02.
-/
import MultiProofs.Radix

namespace Multi

/-- the zero-based copy of a level that `reindex(0)` produces -/
def Dim.zeroed (d : Dim) : Dim := { d with offset := 0 }
/-- the zero-based copy of an extension -/
def Ext.zeroBase (e : Ext) : Ext := ⟨0, e.last - e.first⟩

theorem zeroBased_eq_map_zeroed (l : Layout) : Layout.zeroBased l = l.map Dim.zeroed := rfl

theorem Dim.zeroed_size (d : Dim) : d.zeroed.size = d.size := rfl

theorem Dim.WF.zeroed_ext {d : Dim} (h : d.WF) : d.zeroed.ext = d.ext.zeroBase := by
  by_cases h0 : d.nelems = 0
  · rw [Dim.ext_of_nelems_zero h0, Dim.ext_of_nelems_zero (d := d.zeroed) h0]; rfl
  · have e : d.zeroed = ⟨d.stride, 0 * d.stride, d.size * d.stride⟩ := by rw [← h.nelems_eq, Int.zero_mul]; rfl
    rw [e, Dim.ext_mk (h.stride_pos h0) (h.size_pos h0), Ext.zeroBase, h.ext_last]
    congr 1; omega

theorem isEmpty_zeroed (l : Layout) : Layout.isEmpty (l.map Dim.zeroed) = Layout.isEmpty l := by
  cases l <;> rfl

theorem exts_zeroed {l : Layout} (h : l.WF) : Layout.exts (l.map Dim.zeroed) = l.exts.map Ext.zeroBase := by
  induction l with
  | nil => rfl
  | cons d l ih =>
    simp only [Layout.exts, List.map_cons, h.head.zeroed_ext]
    congr 1
    exact ih h.tail

theorem nElems_zeroBase (es : List Ext) : nElems (es.map Ext.zeroBase) = nElems es := by
  induction es with
  | nil => rfl
  | cons e es ih => simp only [List.map_cons, nElems, ih]; simp [Ext.zeroBase, Ext.size]

theorem zeroBased_sizes (l : Layout) : Layout.sizes (Layout.zeroBased l) = Layout.sizes l := by
  simp [Layout.sizes, Layout.zeroBased, Dim.size, Function.comp_def]

theorem zeroBased_numElements (l : Layout) : Layout.numElements (Layout.zeroBased l) = Layout.numElements l := by
  induction l with
  | nil => rfl
  | cons d l ih => simp only [zeroBased_eq_map_zeroed, List.map_cons, Layout.numElements, Dim.zeroed_size] at ih ⊢; rw [ih]

theorem Layout.WF.sizes_eq {l : Layout} (h : l.WF) : Layout.sizes l = l.exts.map Ext.size := by
  induction l with
  | nil => rfl
  | cons d l ih => simp only [Layout.sizes, Layout.exts, List.map_cons, List.map_map] at ih ⊢; rw [ih h.tail, h.head.size_eq]

theorem zeroBased_exts {l : Layout} (hwf : l.WF) : Layout.exts (Layout.zeroBased l) = zexts (Layout.sizes l) := by
  rw [zeroBased_eq_map_zeroed, exts_zeroed hwf, hwf.sizes_eq, zexts, List.map_map]; rfl

theorem prodSizes_sizes (es : List Ext) : prodSizes (es.map Ext.size) = nElems es := by
  induction es with
  | nil => rfl
  | cons e es ih => simp only [List.map_cons, prodSizes, nElems, ih]

theorem numElements_eq_prodSizes (l : Layout) : l.numElements = prodSizes (Layout.sizes l) := by
  induction l with
  | nil => rfl
  | cons d l ih => simp only [Layout.numElements, Layout.sizes, List.map_cons, prodSizes] at ih ⊢; rw [ih]

def posOf : List Ext → List Int → List Int
  | e :: es, i :: is => (i - e.first) :: posOf es is
  | _, _ => []

theorem posOf_spec {es : List Ext} {idx : List Int} (h : InBox es idx) :
    AllPos (es.map Ext.size) ∧ InBox (zexts (es.map Ext.size)) (posOf es idx) ∧
    rowMajor (zexts (es.map Ext.size)) (posOf es idx) = rowMajor es idx := by
  induction es generalizing idx with
  | nil =>
    cases idx with
    | nil => exact ⟨fun _ h => (nomatch h), trivial, rfl⟩
    | cons _ _ => exact h.elim
  | cons e es ih =>
    obtain ⟨t, r, rfl, h1, h2, h3⟩ := inBox_cons h
    obtain ⟨i1, i2, i3⟩ := ih h3
    simp only [List.map_cons, zexts_cons, posOf, rowMajor, InBox, i3, nElems_zexts, prodSizes_sizes, Int.sub_zero,
      Ext.size]
    refine ⟨?_, ⟨⟨by omega, by omega⟩, i2⟩, trivial⟩
    intro x hx
    rcases List.mem_cons.mp hx with rfl | hx
    · omega
    · exact i1 x hx

theorem apply_zeroBased_posOf {l : Layout} {idx : List Int} (hwf : l.WF) (h : InBox l.exts idx) :
    Layout.apply (Layout.zeroBased l) (posOf l.exts idx) = Layout.off l idx := by
  induction l generalizing idx with
  | nil => cases idx <;> rfl
  | cons d l ih =>
    obtain ⟨t, r, rfl, h1, h2, h3⟩ := inBox_cons h
    have hne : d.nelems ≠ 0 := fun h0 => by
      rw [Dim.ext_of_nelems_zero h0] at h1 h2; exact Int.lt_irrefl 0 (Int.lt_of_le_of_lt h1 h2)
    show 0 + (t - d.ext.first) * d.stride + Layout.apply (Layout.zeroBased l) (posOf (Layout.exts l) r)
      = t * d.stride - d.offset + Layout.off l r
    rw [ih hwf.tail h3, hwf.head.offset_eq hne, Int.sub_mul, Int.zero_add]

/-- an elements iterator over view `v` in the state its constructor would produce for position `n` -/
structure GoodIt (v : View) (it : ElemIt) : Prop where
  base : it.base = v.base
  lay : it.lay = Layout.zeroBased v.lay
  xs : it.xs = zexts (Layout.sizes v.lay)
  lo : 0 ≤ it.n
  hi : it.n ≤ prodSizes (Layout.sizes v.lay)
  canon : Exts.fromLinear (zexts (Layout.sizes v.lay)) it.n = some it.ns

theorem GoodIt.unique {v : View} {a b : ElemIt} (ha : GoodIt v a) (hb : GoodIt v b) (h : a.n = b.n) : a = b := by
  cases a; cases b
  have h1 := ha.base; have h2 := hb.base; have h3 := ha.lay; have h4 := hb.lay
  have h5 := ha.xs; have h6 := hb.xs; have h7 := ha.canon; have h8 := hb.canon
  simp only at h h1 h2 h3 h4 h5 h6 h7 h8
  subst h
  rw [h7] at h8
  simp_all

theorem GoodIt.inBox {v : View} {it : ElemIt} (hg : GoodIt v it) (hp : AllPos (Layout.sizes v.lay))
    (hlt : it.n < prodSizes (Layout.sizes v.lay)) :
    InBox (zexts (Layout.sizes v.lay)) it.ns ∧ rowMajor (zexts (Layout.sizes v.lay)) it.ns = it.n := by
  obtain ⟨ps, e1, e2, e3⟩ := fromLinear_spec hp hg.lo hlt
  rw [Option.some.inj (hg.canon.symm.trans e1)]
  exact ⟨e2, e3⟩

theorem fromLinearG_eq {szs : List Int} (hp : AllPos szs) (k : Int) :
    ElemRange.fromLinearG (zexts szs) k = Exts.fromLinear (zexts szs) k := by
  have := prodSizes_pos hp
  exact if_neg (by rw [numElements_zexts]; omega)

/-- the guard of `from_linear_`: the iterator constructor never divides by zero -/
theorem fromLinearG_isSome (xs : List Ext) (n : Int) : ∃ r, ElemRange.fromLinearG xs n = some r := by
  unfold ElemRange.fromLinearG
  by_cases h : Exts.numElements xs = 0
  · exact ⟨_, if_pos h⟩
  · rw [if_neg h]; rw [exts_numElements_eq] at h; exact fromLinear_isSome_of_ne xs n h

theorem fromLinearG_zexts {szs : List Int} (hp : AllPos szs) (k : Int) :
    ∃ qs, ElemRange.fromLinearG (zexts szs) k = some qs ∧ Exts.fromLinear (zexts szs) k = some qs := by
  obtain ⟨qs, hq⟩ := fromLinear_isSome_of_ne (zexts szs) k
    (by rw [nElems_zexts]; exact Int.ne_of_gt (prodSizes_pos hp))
  exact ⟨qs, by rw [fromLinearG_eq hp, hq], hq⟩

theorem GoodIt.recompute {v : View} {it : ElemIt} (hg : GoodIt v it) (hp : AllPos (Layout.sizes v.lay)) (k : Int) :
    ∃ qs, ElemRange.fromLinearG it.xs k = some qs ∧ Exts.fromLinear (zexts (Layout.sizes v.lay)) k = some qs := by
  rw [hg.xs]; exact fromLinearG_zexts hp k

theorem ElemIt.inc_of_carry {it : ElemIt} (h : (Exts.nextCanonical it.xs it.ns).2 = true) :
    it.inc = (ElemRange.fromLinearG it.xs (it.n + 1)).map fun ns => { it with ns := ns, n := it.n + 1 } := by
  simp only [ElemIt.inc, h, if_true]

theorem ElemIt.inc_of_no_carry {it : ElemIt} (h : (Exts.nextCanonical it.xs it.ns).2 = false) :
    it.inc = some { it with ns := (Exts.nextCanonical it.xs it.ns).1, n := it.n + 1 } := by
  simp [ElemIt.inc, h]

theorem GoodIt.ofMk (v : View) (hwf : v.lay.WF) (hp : AllPos (Layout.sizes v.lay)) (k : Int) (h0 : 0 ≤ k)
    (h1 : k ≤ prodSizes (Layout.sizes v.lay)) :
    ∃ it, (ElemRange.ofView v).mkIt k = some it ∧ GoodIt v it ∧ it.n = k := by
  obtain ⟨ps, g1, e1⟩ := fromLinearG_zexts hp k
  refine ⟨⟨v.base, Layout.zeroBased v.lay, k, zexts (Layout.sizes v.lay), ps⟩, ?_, ⟨rfl, rfl, rfl, h0, h1, e1⟩, rfl⟩
  simp only [ElemRange.mkIt, ofView_eq, zeroBased_exts hwf, g1, Option.map_some]

/-- `operator++` below `end()` preserves the invariant and advances the position by one: without carry out of
    the leading dimension `next_canonical` raises the rank by one, with it the tuple is recomputed -/
theorem GoodIt.inc {v : View} {it : ElemIt} (hg : GoodIt v it) (hp : AllPos (Layout.sizes v.lay))
    (hlt : it.n < prodSizes (Layout.sizes v.lay)) :
    ∃ it', it.inc = some it' ∧ GoodIt v it' ∧ it'.n = it.n + 1 := by
  obtain ⟨hin, hr⟩ := hg.inBox hp hlt
  rcases nextCanonical_step hin with ⟨_, c2, c3, c4⟩ | ⟨_, c2, _, _⟩
  · refine ⟨_, ElemIt.inc_of_no_carry (by rw [hg.xs]; exact c2),
      ⟨hg.base, hg.lay, hg.xs, Int.le_add_one hg.lo, hlt, ?_⟩, rfl⟩
    show Exts.fromLinear _ (it.n + 1) = some (Exts.nextCanonical it.xs it.ns).1
    rw [hg.xs, ← hr, ← c4]
    exact fromLinear_rowMajor hp c3
  · obtain ⟨qs, g1, hq⟩ := hg.recompute hp (it.n + 1)
    refine ⟨{ it with ns := qs, n := it.n + 1 }, ?_, ⟨hg.base, hg.lay, hg.xs, Int.le_add_one hg.lo, hlt, hq⟩, rfl⟩
    rw [ElemIt.inc_of_carry (by rw [hg.xs]; exact c2), g1]; rfl

end Multi
