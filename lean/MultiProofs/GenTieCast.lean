/-
  MultiProofs.GenTieCast — the hand-written model of the projection casts (`MultiModel/Cast.lean`) EQUALS the definitions
  regenerated from the current array_ref.hpp by tools/gen_casts.py (`MultiModel/Gen/CastGen.lean`).  Proof obligations of C12.
-/
import MultiModel.Gen.CastGen
import MultiProofs.TieLemmas

namespace Multi.GenTieCast
open Multi Multi.Gen

theorem ptr_mk (s o : Int) (l : Layout) : (TView.mk s o ⟨0, l⟩).ptr = o := by
  rw [TView.ptr, Int.mul_zero, Int.add_zero]

/-- `member_cast`: const&, &, && overloads of the D > 1 class and the D = 1 specialisation -/
theorem member_cast_is_the_code (t : TView) (s off : Int) :
    CAST_member t s off = t.memberCast s off ∧ CAST_member_rv t s off = t.memberCast s off ∧ CAST1_member t s off = t.memberCast s off := by
  refine ⟨rfl, ?_, rfl⟩
  rw [CAST_member_rv, TView.memberCast, ptr_mk]

/-- `reinterpret_array_cast<U>()`: the const overload goes through `reinterpret_array_cast_aux_().as_const()`, the mutable
    ones build the view directly; D = 1 const rebuilds the level by hand -/
theorem reinterpret_is_the_code (t : TView) (s : Int) :
    CAST_reinterpret_aux t s = t.reinterpret s ∧ CAST_reinterpret t s = t.reinterpret s ∧ CAST_S_reinterpret t s = t.reinterpret s := by
  refine ⟨rfl, ?_, rfl⟩
  rw [CAST_reinterpret, TView.reinterpret, ptr_mk]

theorem reinterpret1_is_the_code (e o b : Int) (d : Dim) (s : Int) :
    CAST1_reinterpret ⟨e, o, ⟨b, [d]⟩⟩ s = TView.reinterpret1 ⟨e, o, ⟨b, [d]⟩⟩ s := rfl

/-- `reinterpret_array_cast<U>(n)`: the raw-pointer and the fancy-pointer branch of the const overload build the same view -/
theorem reinterpret_n_is_the_code (t : TView) (s n : Int) (isRaw : Bool) :
    CAST_reinterpret_n t s n isRaw = t.reinterpretN s n ∧ CAST_S_reinterpret_n t s n = t.reinterpretN s n ∧
    CAST1_reinterpret_n t s n = t.reinterpretN1 s n := by
  refine ⟨?_, rfl, ?_⟩
  · simp only [CAST_reinterpret_n, TView.reinterpretN, ite_self]
  · simp only [CAST1_reinterpret_n, TView.reinterpretN1, View.rotated]

/-- the assertions of the bodies, together with those of `layout_t::scale` (tied in GenTie), are the model's predicates -/
theorem cast_assertions_are_the_code (t : TView) (s off n : Int) (isRaw : Bool) :
    (CAST_member_asserts t s off && t.v.lay.scaleAsserts t.esz s) = t.memberCastAsserts s ∧
    (CAST1_member_asserts t s off && t.v.lay.scaleAsserts t.esz s) = t.memberCastAsserts s ∧
    (CAST_reinterpret_aux_asserts t s && t.v.lay.scaleAsserts t.esz s) = t.reinterpretAsserts s ∧
    (CAST_S_reinterpret_asserts t s && t.v.lay.scaleAsserts t.esz s) = t.reinterpretAsserts s ∧
    (CAST_reinterpret_n_asserts t s n isRaw && t.v.lay.scaleAsserts t.esz s) = t.reinterpretNAsserts s n ∧
    (CAST_S_reinterpret_n_asserts t s n && t.v.lay.scaleAsserts t.esz s) = t.reinterpretNAsserts s n := by
  have h : (n * s == t.esz) = decide (t.esz = s * n) := by rw [int_beq_comm, Bool.beq_eq_decide_eq, Int.mul_comm]
  refine ⟨?_, ?_, rfl, rfl, ?_, ?_⟩
  · rw [CAST_member_asserts, Bool.beq_eq_decide_eq]; rfl
  · rw [CAST1_member_asserts, Bool.beq_eq_decide_eq]; rfl
  · rw [CAST_reinterpret_n_asserts, h, Bool.beq_eq_decide_eq]; rfl
  · rw [CAST_S_reinterpret_n_asserts, h, Bool.beq_eq_decide_eq]; rfl

theorem reinterpret1_asserts_tie (e o b : Int) (d : Dim) (s : Int) :
    CAST1_reinterpret_asserts ⟨e, o, ⟨b, [d]⟩⟩ s = TView.reinterpret1Asserts ⟨e, o, ⟨b, [d]⟩⟩ s := rfl

end Multi.GenTieCast
