/-
  MultiProofs.Lemmas — `rotate`, `unrotate` and `reverse` of layout.hpp, transcribed as recursions over the levels, are
  the list operations: head to the end, last to the front, reversal.
-/
import MultiProofs.Spec

namespace Multi
open Layout

theorem rotate_cons (d : Dim) (l : Layout) : rotate (d :: l) = l ++ [d] := by
  induction l generalizing d with
  | nil => simp [rotate]
  | cons d1 l ih => rw [rotate, ih]; rfl

theorem unrotate_snoc (l : Layout) (d : Dim) : unrotate (l ++ [d]) = d :: l := by
  induction l with
  | nil => rfl
  | cons d0 l ih =>
    cases l with
    | nil => rfl
    | cons d1 l =>
      show unrotate (d0 :: d1 :: (l ++ [d])) = _
      rw [unrotate, ← List.cons_append, ih]
      rfl

theorem unrotate_rotate (l : Layout) : unrotate (rotate l) = l := by
  cases l with
  | nil => simp [rotate, unrotate]
  | cons d l => rw [rotate_cons, unrotate_snoc]

theorem reverse_nil : Layout.reverse [] = [] := by
  rw [Layout.reverse]; split
  · rfl
  · rename_i h; simp [unrotate] at h

theorem reverse_snoc (l : Layout) (d : Dim) : Layout.reverse (l ++ [d]) = d :: Layout.reverse l := by
  rw [Layout.reverse]
  split
  · rename_i h; rw [unrotate_snoc] at h; simp at h
  · rename_i d' sub h; rw [unrotate_snoc] at h; injection h with h1 h2; subst h1 h2; rfl

theorem reverse_of_reverse (l : Layout) : Layout.reverse (List.reverse l) = l := by
  induction l with
  | nil => exact reverse_nil
  | cons d l ih => rw [List.reverse_cons, reverse_snoc, ih]

/-- `layout_t::reverse()` reverses the order of the dimensions -/
theorem reverse_eq (l : Layout) : Layout.reverse l = List.reverse l := by
  have := reverse_of_reverse (List.reverse l)
  rwa [List.reverse_reverse] at this

end Multi
