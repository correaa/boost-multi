/-
  MultiProofs.OwnHeap — what the heap primitives of MultiModel.Owning do to a live block
  (helper lemmas for C04 / C06).
-/
import MultiModel.Owning

namespace Multi
namespace Own
variable {α : Type}

/-- block `b` is live in `h` and holds the cells `cs` -/
def Live (h : Heap α) (b : Nat) (cs : List (Cell α)) : Prop := h.blocks[b]? = some (some cs)

theorem Live.lt {h : Heap α} {b : Nat} {cs : List (Cell α)} (hl : Live h b cs) : b < h.blocks.length := by
  unfold Live at hl
  exact (List.getElem?_eq_some_iff.mp hl).1

theorem Live.unique {h : Heap α} {b : Nat} {cs cs' : List (Cell α)} (h1 : Live h b cs) (h2 : Live h b cs') : cs = cs' := by
  unfold Live at h1 h2; rw [h1] at h2; simpa using h2

def Heap.setBlock (h : Heap α) (b : Nat) (x : Option (List (Cell α))) : Heap α := { h with blocks := h.blocks.set b x }

@[simp] theorem Heap.setBlock_ub (h : Heap α) (b : Nat) (x) : (h.setBlock b x).ub = h.ub := rfl
@[simp] theorem Heap.setBlock_asrt (h : Heap α) (b : Nat) (x) : (h.setBlock b x).asrt = h.asrt := rfl

theorem Live.setBlock_same {h : Heap α} {b : Nat} {cs : List (Cell α)} (hl : Live h b cs) (cs' : List (Cell α)) :
    Live (h.setBlock b (some cs')) b cs' := by
  unfold Live Heap.setBlock
  simp [hl.lt]

theorem Live.setBlock_other {h : Heap α} {b b' : Nat} {cs : List (Cell α)} (hl : Live h b cs) (hne : b' ≠ b) (x) :
    Live (h.setBlock b' x) b cs := by
  unfold Live Heap.setBlock
  simp only
  rw [List.getElem?_set_ne hne]
  exact hl

theorem Heap.setBlock_setBlock (h : Heap α) (b : Nat) (x y) : (h.setBlock b x).setBlock b y = h.setBlock b y := by
  unfold Heap.setBlock; simp [List.set_set]

theorem Heap.setBlock_self {h : Heap α} {b : Nat} {cs : List (Cell α)} (hl : Live h b cs) : h.setBlock b (some cs) = h := by
  unfold Heap.setBlock
  have : h.blocks.set b (some cs) = h.blocks := by
    apply List.ext_getElem?
    intro i
    by_cases hi : b = i
    · subst hi; rw [List.getElem?_set_self hl.lt]; exact hl.symm
    · rw [List.getElem?_set_ne hi]
  rw [this]

theorem alloc_zero (h : Heap α) : h.alloc 0 = (h, none) := by simp [Heap.alloc]

theorem alloc_pos (h : Heap α) {n : Int} (hn : n ≠ 0) :
    h.alloc n = ({ h with blocks := h.blocks ++ [some (List.replicate n.toNat none)] }, some h.blocks.length) := by
  simp [Heap.alloc, hn]

theorem alloc_live (h : Heap α) {n : Int} (hn : n ≠ 0) :
    Live (h.alloc n).1 h.blocks.length (List.replicate n.toNat none) := by
  rw [alloc_pos h hn]; unfold Live; simp

theorem alloc_frame (h : Heap α) (n : Int) :
    (∀ b cs, Live h b cs → Live (h.alloc n).1 b cs) ∧ (h.alloc n).1.ub = h.ub ∧ (h.alloc n).1.asrt = h.asrt ∧
      h.blocks.length ≤ (h.alloc n).1.blocks.length := by
  by_cases hn : n = 0
  · subst hn; rw [alloc_zero]; exact ⟨fun _ _ hl => hl, rfl, rfl, Nat.le_refl _⟩
  · rw [alloc_pos h hn]
    refine ⟨fun b cs hl => ?_, rfl, rfl, by simp⟩
    unfold Live; simp only
    rw [List.getElem?_append_left hl.lt]; exact hl

theorem alloc_fresh (h : Heap α) {n : Int} (hn : n ≠ 0) {b : Nat} {cs : List (Cell α)} (hl : Live h b cs) :
    (h.alloc n).2 ≠ some b := by
  rw [alloc_pos h hn]
  show some h.blocks.length ≠ some b
  intro he
  have h1 : b < h.blocks.length := hl.lt
  have h2 : h.blocks.length = b := Option.some.inj he
  omega

theorem write_live {h : Heap α} {b : Nat} {cs : List (Cell α)} (hl : Live h b cs) {a : Int} (ha : 0 ≤ a) (hk : a.toNat < cs.length)
    (c : Cell α) : h.write (some b) a c = h.setBlock b (some (cs.set a.toNat c)) := by
  unfold Heap.write
  simp only
  rw [show h.blocks[b]? = some (some cs) from hl]
  simp only [ha, hk, and_self, if_true]
  rfl

theorem read_live {h : Heap α} {b : Nat} {cs : List (Cell α)} (hl : Live h b cs) {a : Int} (ha : 0 ≤ a) :
    h.read (some b) a = cs[a.toNat]? := by
  unfold Heap.read Heap.block?
  simp only
  rw [if_neg (Int.not_lt.mpr ha), show h.blocks[b]? = some (some cs) from hl]
  rfl

theorem copyCell_live {h : Heap α} {s d : Nat} {ss ds : List (Cell α)} (hs : Live h s ss) (hd : Live h d ds)
    {a b : Int} (ha : 0 ≤ a) (hka : a.toNat < ss.length) (hb : 0 ≤ b) (hkb : b.toNat < ds.length) :
    h.copyCell (some s) a (some d) b = h.setBlock d (some (ds.set b.toNat (ss[a.toNat]?.getD none))) := by
  unfold Heap.copyCell
  rw [read_live hs ha, List.getElem?_eq_getElem hka]
  exact write_live hd hb hkb _

def setMany {β : Type} (cs : List β) : List (Nat × β) → List β
  | [] => cs
  | pv :: ps => setMany (cs.set pv.1 pv.2) ps

@[simp] theorem length_setMany {β : Type} (ps : List (Nat × β)) : ∀ cs : List β, (setMany cs ps).length = cs.length := by
  induction ps with
  | nil => intro cs; rfl
  | cons pv ps ih => intro cs; simp [setMany, ih]

theorem getElem?_setMany_not_mem {β : Type} (ps : List (Nat × β)) : ∀ (cs : List β) (j : Nat), j ∉ ps.map Prod.fst →
    (setMany cs ps)[j]? = cs[j]? := by
  induction ps with
  | nil => intro cs j _; rfl
  | cons pv ps ih =>
    intro cs j hj
    simp only [List.map_cons, List.mem_cons, not_or] at hj
    simp only [setMany]
    rw [ih _ j hj.2, List.getElem?_set_ne (fun e => hj.1 e.symm)]

theorem getElem?_setMany_mem {β : Type} (ps : List (Nat × β)) : ∀ (cs : List β) (p : Nat) (v : β), (ps.map Prod.fst).Nodup →
    (p, v) ∈ ps → p < cs.length → (setMany cs ps)[p]? = some v := by
  induction ps with
  | nil => intro cs p v _ h; simp at h
  | cons pv ps ih =>
    intro cs p v hnd hmem hp
    simp only [List.map_cons, List.nodup_cons] at hnd
    simp only [setMany]
    rcases List.mem_cons.mp hmem with h | h
    · subst h
      rw [getElem?_setMany_not_mem ps _ _ hnd.1]
      simp [hp]
    · exact ih _ p v hnd.2 h (by simp; exact hp)

theorem setMany_range {β : Type} (cs : List β) (V : Nat → β) :
    setMany cs ((List.range cs.length).map fun k => (k, V k)) = (List.range cs.length).map V := by
  have hfst : ((List.range cs.length).map fun k => (k, V k)).map Prod.fst = List.range cs.length := by
    rw [List.map_map]; exact List.map_id _
  apply List.ext_getElem?
  intro j
  by_cases hj : j < cs.length
  · rw [getElem?_setMany_mem _ cs j (V j) (by rw [hfst]; exact List.nodup_range) (List.mem_map.mpr ⟨j, List.mem_range.mpr hj, rfl⟩) hj]
    simp [hj]
  · rw [List.getElem?_eq_none (by simpa using hj), List.getElem?_eq_none (by simpa using hj)]

theorem list_eq_range_map {β : Type} (cs : List β) (dflt : β) : cs = (List.range cs.length).map fun k => cs[k]?.getD dflt := by
  apply List.ext_getElem?
  intro i
  by_cases hi : i < cs.length <;> simp [hi]

/-- **a loop of stores into one live block**: if every step `f · x` replaces cell `P x` of block `d` by `V x` and changes nothing else,
    the loop over `L` does to the block what `setMany` does to a list -/
theorem foldl_setBlock {ι : Type} {d : Nat} (f : Heap α → ι → Heap α) (P : ι → Nat) (V : ι → Cell α) (L : List ι) :
    ∀ (h : Heap α) (cs : List (Cell α)), Live h d cs →
      (∀ (cs' : List (Cell α)) (x : ι), x ∈ L → cs'.length = cs.length →
        f (h.setBlock d (some cs')) x = h.setBlock d (some (cs'.set (P x) (V x)))) →
      L.foldl f h = h.setBlock d (some (setMany cs (L.map fun x => (P x, V x)))) := by
  induction L with
  | nil => intro h cs hl _; exact (Heap.setBlock_self hl).symm
  | cons x L ih =>
    intro h cs hl hstep
    have h1 := hstep cs x List.mem_cons_self rfl
    rw [Heap.setBlock_self hl] at h1
    rw [List.foldl_cons, h1, ih _ _ (hl.setBlock_same _) (fun cs' y hy hlen => by
      rw [Heap.setBlock_setBlock, Heap.setBlock_setBlock]
      exact hstep cs' y (List.mem_cons_of_mem _ hy) (hlen.trans List.length_set)), Heap.setBlock_setBlock]
    rfl

theorem fillN_live {h : Heap α} {b : Nat} {cs : List (Cell α)} (hl : Live h b cs) {n : Nat} (hn : cs.length = n) (c : Cell α) :
    h.fillN (some b) n c = h.setBlock b (some (List.replicate n c)) := by
  subst hn
  unfold Heap.fillN
  rw [foldl_setBlock _ (fun k => k) (fun _ => c) _ h cs hl (fun cs' k hk hlen =>
      (write_live (hl.setBlock_same cs') (Int.natCast_nonneg k) (hlen ▸ List.mem_range.mp hk) c).trans (Heap.setBlock_setBlock ..)),
    setMany_range, List.map_const', List.length_range]

theorem copyN_live {h : Heap α} {s d : Nat} {ss ds : List (Cell α)} (hs : Live h s ss) (hd : Live h d ds) (hne : s ≠ d)
    {n : Nat} (hns : ss.length = n) (hnd : ds.length = n) : h.copyN (some s) (some d) n = h.setBlock d (some ss) := by
  subst hnd
  unfold Heap.copyN
  rw [foldl_setBlock _ (fun k => k) (fun k => ss[k]?.getD none) _ h ds hd (fun cs' k hk hlen =>
      (copyCell_live (hs.setBlock_other hne.symm _) (hd.setBlock_same cs') (Int.natCast_nonneg k) (hns ▸ List.mem_range.mp hk)
        (Int.natCast_nonneg k) (hlen ▸ List.mem_range.mp hk)).trans (Heap.setBlock_setBlock ..)),
    setMany_range, ← hns, ← list_eq_range_map]

/-- writing `vs` behind the cells `pre` of a block `pre ++ rest` replaces `rest` -/
theorem writeList_live_aux {b : Nat} (vs : List α) : ∀ (h : Heap α) (pre rest : List (Cell α)), Live h b (pre ++ rest) →
    rest.length = vs.length → h.writeList (some b) pre.length vs = h.setBlock b (some (pre ++ vs.map some)) := by
  induction vs with
  | nil =>
    intro h pre rest hl hr
    rw [List.eq_nil_of_length_eq_zero hr] at hl
    exact (Heap.setBlock_self hl).symm
  | cons v vs ih =>
    intro h pre rest hl hr
    match rest, hr with
    | c :: rest, hr =>
      unfold Heap.writeList
      rw [write_live (a := Int.ofNat pre.length) hl (Int.natCast_nonneg _)
        (show pre.length < (pre ++ c :: rest).length by rw [List.length_append, List.length_cons]; omega)]
      have hset : (pre ++ c :: rest).set pre.length (some v) = (pre ++ [some v]) ++ rest := by
        rw [List.set_append_right _ _ (Nat.le_refl _), Nat.sub_self, List.append_assoc]; rfl
      have := ih (h.setBlock b (some ((pre ++ [some v]) ++ rest))) (pre ++ [some v]) rest (hset ▸ hl.setBlock_same _) (Nat.succ.inj hr)
      rw [List.length_append, List.length_singleton] at this
      show (h.setBlock b (some ((pre ++ c :: rest).set pre.length (some v)))).writeList (some b) (pre.length + 1) vs = _
      rw [hset, this, Heap.setBlock_setBlock, List.append_assoc]
      rfl

theorem writeList_live {h : Heap α} {b : Nat} {cs : List (Cell α)} (hl : Live h b cs) (vs : List α) (hn : vs.length = cs.length) :
    h.writeList (some b) 0 vs = h.setBlock b (some (vs.map some)) :=
  writeList_live_aux vs h [] cs hl hn.symm

theorem dealloc_live {h : Heap α} {b : Nat} {cs : List (Cell α)} (hl : Live h b cs) : h.dealloc (some b) = h.setBlock b none := by
  unfold Heap.dealloc
  simp only
  rw [show h.blocks[b]? = some (some cs) from hl]
  rfl

end Own
end Multi
