/-
  C11 — All guarantees are independent of the pointer type.

  In the model a pointer is an `Int` offset.  What makes the guarantees independent of the pointer type is that
  every computation uses the pointer only through `p + n`, `p − q`, comparison and dereference — never its absolute
  value.  Formally: every view-forming operation, iterator and element range is *affine in the base*: translating
  the base by `k` translates every computed pointer by `k` and changes nothing else (`op_affine`, `addr_affine`,
  `iter_affine`, `elems_affine`).  Hence for any pointer type `P` with a lawful `add : P → Int → P`
  (`PtrLike`), interpreting offsets as `add p₀ n` commutes with every operation (`interp_commutes`), and by
  `C01.reachable_in_bounds` every dereferenced pointer is `add p₀ n` with `0 ≤ n < N`.

  What the theorem cannot see is whether the C++ templates really use only that algebra (no `reinterpret_cast`,
  `static_cast<T*>`, `to_address`): that is validated by running the same programs through a minimal offset
  pointer with no conversion to or from `T*` and through a bounds-tracking pointer (harness/common/fancy_ptr.hpp);
  all three streams must equal the same model stream.
-/
import MultiProofs.C19

namespace Multi
namespace C11

def shift (k : Int) (v : View) : View := ⟨v.base + k, v.lay⟩

/-- the shape of every case below: an operation adds to the base a displacement `δ` computed from the layout -/
theorem shift_move (k b δ : Int) (l : Layout) : (⟨b + k + δ, l⟩ : View) = shift k ⟨b + δ, l⟩ :=
  congrArg (View.mk · l) (Int.add_right_comm b k δ)

theorem sliced_affine (v : View) (k a b : Int) : (shift k v).sliced a b = shift k (v.sliced a b) := by
  obtain ⟨base, lay⟩ := v
  match lay with
  | [] => rfl
  | [d] => exact shift_move k base _ _
  | d :: d1 :: l => exact shift_move k base _ _

theorem range_affine (v : View) (k a b : Int) : (shift k v).range a b = shift k (v.range a b) :=
  sliced_affine v k a _

theorem index_affine (v : View) (k i : Int) : (shift k v).index i = shift k (v.index i) := by
  obtain ⟨base, lay⟩ := v
  cases lay with
  | nil => rfl
  | cons d sub => exact shift_move k base _ _

theorem paren_affine (args : List Arg) (v : View) (k : Int) : (shift k v).paren args = shift k (v.paren args) := by
  induction args generalizing v with
  | nil => rfl
  | cons a as ih =>
    cases a with
    | idx i => simp only [View.paren]; rw [index_affine, ih]
    | rng a b =>
      simp only [View.paren]
      rw [range_affine, show (shift k (v.range a b)).rotated = shift k (v.range a b).rotated from rfl, ih]; rfl
    | all =>
      simp only [View.paren]
      rw [show (shift k v).ext = v.ext from rfl, range_affine,
        show ∀ w : View, (shift k w).rotated = shift k w.rotated from fun _ => rfl, ih]; rfl

/-- every view-forming operation is affine in the base pointer -/
theorem op_affine (op : Op) (v : View) (k : Int) : op.apply (shift k v) = shift k (op.apply v) := by
  cases op with
  | index i => exact index_affine v k i
  | sliced a b => exact sliced_affine v k a b
  | range a b => exact range_affine v k a b
  | strided s => obtain ⟨base, lay⟩ := v; cases lay <;> rfl
  | dropped n =>
    obtain ⟨base, lay⟩ := v
    cases lay with
    | nil => rfl
    | cons d sub => exact shift_move k base _ _
  | taked n => obtain ⟨base, lay⟩ := v; cases lay <;> rfl
  | rotated => rfl
  | unrotated => rfl
  | transposed => rfl
  | reversed => rfl
  | diagonal =>
    obtain ⟨base, lay⟩ := v
    match lay with
    | [] => rfl
    | [d] => rfl
    | d0 :: d1 :: sub =>
      simp only [Op.apply, View.diagonal, shift]
      have := paren_affine [Arg.rng 0 (min d0.size d1.size), Arg.rng 0 (min d0.size d1.size)] ⟨base, d0 :: d1 :: sub⟩ k
      simp only [shift] at this
      rw [this]
      generalize View.paren ⟨base, d0 :: d1 :: sub⟩ _ = w
      obtain ⟨wb, wl⟩ := w
      match wl with
      | [] => rfl
      | [_] => rfl
      | _ :: _ :: _ => rfl
  | partitioned n => obtain ⟨base, lay⟩ := v; cases lay <;> rfl
  | chunked c => obtain ⟨base, lay⟩ := v; cases lay <;> rfl
  | flatted =>
    obtain ⟨base, lay⟩ := v
    match lay with
    | [] => rfl
    | [d] => rfl
    | d0 :: d1 :: sub => rfl
  | call args => exact paren_affine args v k

/-- element addresses are affine in the base -/
theorem addr_affine (v : View) (k : Int) (idx : List Int) : (shift k v).addr idx = v.addr idx + k := by
  rw [addr_eq, addr_eq]; simp only [shift]; omega

/-- `begin()/end()` iterators are affine in the base -/
theorem iter_affine (v : View) (k : Int) (n : Int) :
    ((shift k v).begin'.add n).ptr = (v.begin'.add n).ptr + k ∧ (shift k v).end'.ptr = v.end'.ptr + k ∧
    (shift k v).end'.diff (shift k v).begin' = v.end'.diff v.begin' := by
  obtain ⟨base, lay⟩ := v
  cases lay with
  | nil => simp [shift, View.begin', View.end', ArrIt.add, ArrIt.diff]
  | cons d sub =>
    refine ⟨Int.add_right_comm base k _, Int.add_right_comm base k _, ?_⟩
    show (base + k + d.nelems - (base + k)).tdiv d.stride = (base + d.nelems - base).tdiv d.stride
    congr 1; omega

/-- the elements range and every position of its iterator are affine in the base -/
theorem elems_affine (v : View) (k : Int) (n : Int) :
    ElemRange.ofView (shift k v) = ⟨(ElemRange.ofView v).base + k, (ElemRange.ofView v).lay⟩ ∧
    (((ElemRange.ofView (shift k v)).mkIt n).map ElemIt.current = ((ElemRange.ofView v).mkIt n).map fun it => it.current + k) := by
  have h1 : ElemRange.ofView (shift k v) = ⟨(ElemRange.ofView v).base + k, (ElemRange.ofView v).lay⟩ := by
    simp [ofView_eq, shift]
  refine ⟨h1, ?_⟩
  rw [h1]
  simp only [ElemRange.mkIt]
  cases ElemRange.fromLinearG (ElemRange.ofView v).lay.exts n with
  | none => rfl
  | some ns => simp [ElemIt.current]; omega

/-- a pointer-like type: the only thing the library may do with a pointer besides dereferencing and comparing -/
class PtrLike (P : Type) where
  add : P → Int → P
  add_zero : ∀ p, add p 0 = p
  add_add : ∀ p a b, add (add p a) b = add p (a + b)

instance : PtrLike Int := ⟨fun p n => p + n, fun p => by omega, fun p a b => by omega⟩

/-- interpreting model offsets in an arbitrary pointer type commutes with every operation: the pointer held by
    `op(view based at p₀ + b)` is `p₀ + (base of op(view based at b))` -/
theorem interp_commutes {P : Type} [PtrLike P] (p0 : P) (op : Op) (v : View) (k : Int) :
    PtrLike.add p0 (op.apply (shift k v)).base = PtrLike.add (PtrLike.add p0 k) (op.apply v).base := by
  rw [op_affine, PtrLike.add_add]; simp only [shift]; congr 1; omega

end C11
end Multi
