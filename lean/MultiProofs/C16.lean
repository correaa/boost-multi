import MultiModel.Gen.ConstTable

/-!
# C16 — const-ness propagates

`MultiModel/Gen/ConstTable.lean` is regenerated on every run by `tools/gen_const_table.py`: g++ compiles probe translation
units against the current headers and yields the exact finite transition system over states (C++ type, value category),
element type `int`, D ≤ `maxD`; every fact bit is a compile outcome (trial compilation), `rebindable` additionally a run-time probe.

The const half rests on a certificate: the generator also emits the set `R` of states it found reachable from the const roots
(bit vector `rBits`); the kernel checks over the complete finite table that `R` contains the const roots, is closed under every
edge and holds no writable state (`certificate_ok`), and `const_never_writable` follows for access paths of ANY length by
induction on the path.  The mutable half (`mutable_paths_writable`) runs the access paths named in the property through the
table; `views_not_rebindable` and `named_view_not_copyable` are read off the fact vectors.

Edges that an *open* finding of `findings/C16.json` / `known_findings.json` names are cut out of `adj` by the generator (they are
listed in the JSON table under `known_holes` and re-reported by every run as KNOWN-FINDING); on a tree without open findings
`adj` is the complete table.
-/

namespace Multi.C16
open Multi.Gen.ConstTable

/-- one step of the transition system: applying operation `o` to state `s` yields state `t` -/
def Edge (s o t : Nat) : Prop := (o, t) ∈ adj.getD s []

/-- states reachable from `roots` by access paths of any length -/
inductive Reach (roots : List Nat) : Nat → Prop
  | root {s : Nat} : s ∈ roots → Reach roots s
  | step {s o t : Nat} : Reach roots s → Edge s o t → Reach roots t

def bit (m s : Nat) : Bool := m.testBit s

def elemMut (s : Nat) : Bool := bit elemMutBits s
def acceptsAssign (s : Nat) : Bool := bit acceptsAssignBits s
def acceptsFill (s : Nat) : Bool := bit acceptsFillBits s
def acceptsSwap (s : Nat) : Bool := bit acceptsSwapBits s
def acceptsElementsAssign (s : Nat) : Bool := bit acceptsElementsAssignBits s
def copyConstructible (s : Nat) : Bool := bit copyConstructibleBits s
def namedView (s : Nat) : Bool := bit namedViewBits s
def viewRef (s : Nat) : Bool := bit viewRefBits s
def rebindable (s : Nat) : Bool := bit rebindableBits s

/-- the state is a modifiable element reference / non-const element pointer, or accepts assignment, fill, swap or `elements() =` -/
def Writable (s : Nat) : Prop :=
  elemMut s = true ∨ acceptsAssign s = true ∨ acceptsFill s = true ∨ acceptsSwap s = true ∨ acceptsElementsAssign s = true

def writableB (s : Nat) : Bool :=
  elemMut s || acceptsAssign s || acceptsFill s || acceptsSwap s || acceptsElementsAssign s

theorem writable_iff (s : Nat) : Writable s ↔ writableB s = true := by
  simp only [Writable, writableB, Bool.or_eq_true, or_assoc]

/-- const array / const-qualified view / const_iterator roots, plus every const-qualified view made from a reachable view -/
def allConstRoots : List Nat := constRoots ++ derivedConstRoots

def inR (s : Nat) : Bool := decide (s < nStates) && bit rBits s

def closedB : Bool :=
  (List.range nStates).all fun s => !inR s || (adj.getD s []).all fun e => inR e.2

def rootsInB : Bool := allConstRoots.all inR

def noWritableB : Bool := (List.range nStates).all fun s => !inR s || !writableB s

def certOk : Bool := rootsInB && closedB && noWritableB

/-- the certificate: const roots ⊆ R, R closed under every edge, no state of R is writable -/
theorem certificate_ok : certOk = true := by decide +kernel

theorem certificate_parts : (rootsInB = true ∧ closedB = true) ∧ noWritableB = true := by
  simpa only [certOk, Bool.and_eq_true] using certificate_ok

theorem inR_lt {s : Nat} (h : inR s = true) : s < nStates :=
  of_decide_eq_true (Bool.and_eq_true_iff.mp h).1

theorem excl_of_all_range {n : Nat} {p q : Nat → Bool} (h : ((List.range n).all fun s => !p s || !q s) = true)
    {s : Nat} (hs : s < n) (hp : p s = true) : q s = false := by
  have := List.all_eq_true.mp h s (List.mem_range.mpr hs)
  rw [hp, Bool.not_true, Bool.false_or, Bool.not_eq_true'] at this
  exact this

theorem roots_in_R {s : Nat} (h : s ∈ allConstRoots) : inR s = true :=
  List.all_eq_true.mp certificate_parts.1.1 s h

theorem R_closed {s o t : Nat} (hs : inR s = true) (he : Edge s o t) : inR t = true := by
  have h1 := List.all_eq_true.mp certificate_parts.1.2 s (List.mem_range.mpr (inR_lt hs))
  rw [hs, Bool.not_true, Bool.false_or] at h1
  exact List.all_eq_true.mp h1 (o, t) he

theorem R_not_writable {s : Nat} (hs : inR s = true) : writableB s = false :=
  excl_of_all_range certificate_parts.2 (inR_lt hs) hs

theorem reach_in_R {s : Nat} (h : Reach allConstRoots s) : inR s = true := by
  induction h with
  | root hr => exact roots_in_R hr
  | step _ he ih => exact R_closed ih he

/-- **C16, const half.** Through a const array, a const-qualified view, a const_iterator, or anything derived from them by an
access path of any length, no state is a modifiable element reference or pointer, nor accepts assignment, fill, swap or
`elements() = …`. -/
theorem const_never_writable {s : Nat} (h : Reach allConstRoots s) : ¬ Writable s := by
  intro hw
  have := R_not_writable (reach_in_R h)
  rw [(writable_iff s).mp hw] at this
  exact Bool.noConfusion this

def step (s o : Nat) : Option Nat := ((adj.getD s []).find? fun e => e.1 == o).map (·.2)

def run : Nat → List Nat → Option Nat
  | s, [] => some s
  | s, o :: os => match step s o with
    | some t => run t os
    | none => none

theorem find_fst_mem {l : List (Nat × Nat)} {o t : Nat}
    (h : (l.find? fun e => e.1 == o).map (·.2) = some t) : (o, t) ∈ l := by
  obtain ⟨⟨a, b⟩, hf, rfl⟩ := Option.map_eq_some_iff.mp h
  have ha : (a == o) = true := List.find?_some (p := fun e : Nat × Nat => e.1 == o) hf
  rw [← beq_iff_eq.mp ha]
  exact List.mem_of_find?_eq_some hf

theorem step_edge {s o t : Nat} (h : step s o = some t) : Edge s o t :=
  find_fst_mem h

theorem run_reach {roots : List Nat} : ∀ (ops : List Nat) {s t : Nat}, Reach roots s → run s ops = some t → Reach roots t
  | [], s, t, hs, h => Option.some.inj h ▸ hs
  | o :: os, s, t, hs, h => by
    rw [run] at h
    cases hst : step s o with
    | none => rw [hst] at h; cases h
    | some u => rw [hst] at h; exact run_reach os (.step hs (step_edge hst)) h

/-- the mutable roots as a bit vector like the fact vectors of the table: for the kernel one shift on a literal is far cheaper
    than a search through `mutRoots` with decidable equality, and the test is made once per path -/
def mutRootBits : Nat := mutRoots.foldl (fun m r => m ||| 1 <<< r) 0

theorem testBit_foldl_or (l : List Nat) (m r : Nat) :
    (l.foldl (fun m x => m ||| 1 <<< x) m).testBit r = (m.testBit r || l.contains r) := by
  induction l generalizing m with
  | nil => simp
  | cons x xs ih =>
    rw [List.foldl_cons, ih, Nat.testBit_or, Nat.one_shiftLeft, Nat.testBit_two_pow, List.contains_cons, Bool.or_assoc,
      Bool.beq_comm, Bool.beq_eq_decide_eq]

def mutPathOk (p : Nat × List Nat) : Bool :=
  bit mutRootBits p.1 && match run p.1 p.2 with
    | some t => elemMut t
    | none => false

def mutPathsOk : Bool := mutablePaths.all mutPathOk

theorem mutable_paths_ok : mutPathsOk = true := by
  -- `mutablePaths` is a left-nested `++` of its chunks: evaluated as it stands, every entry is passed up through all of them
  unfold mutPathsOk mutablePaths
  simp only [List.all_append]
  decide +kernel

/-- **C16, mutable half.** Every access path the property names (indexing, call syntax, begin/end, dereference, `elements()`,
`home()`, `base()`, `data_elements()`, the view-forming operations and their compositions — list `mutablePaths`, generated from a
grammar over (root kind, D), not read off the table), started from a non-const array, array reference or forwarded view, exists
in the table and ends in a modifiable element reference or non-const element pointer. (Paths covered by an open over-const finding
are listed separately in the JSON table and reported as KNOWN-FINDING.) -/
theorem mutable_paths_writable :
    ∀ p ∈ mutablePaths, ∃ t, run p.1 p.2 = some t ∧ Reach mutRoots t ∧ elemMut t = true := by
  intro p hp
  have h := List.all_eq_true.mp mutable_paths_ok p hp
  simp only [mutPathOk, Bool.and_eq_true] at h
  obtain ⟨hroot, hrun⟩ := h
  cases hr : run p.1 p.2 with
  | none => simp [hr] at hrun
  | some t =>
    simp only [hr] at hrun
    refine ⟨t, rfl, ?_, hrun⟩
    have hmem : p.1 ∈ mutRoots := by simpa [bit, mutRootBits, testBit_foldl_or] using hroot
    exact run_reach p.2 (Reach.root hmem) hr

def viewsNotRebindableB : Bool := (List.range nStates).all fun s => !viewRef s || !rebindable s

/-- **C16, rebinding.** For every non-owning view / array-reference state: either assignment does not compile, or the run-time
probe of the generator showed that `v = w` copies element-wise leaving `v`'s layout and base untouched and that assigning a view of
different extents trips the library's assertion instead of rebinding or resizing `v`. -/
theorem views_not_rebindable : ∀ s, s < nStates → viewRef s = true → rebindable s = false := by
  have h : viewsNotRebindableB = true := by decide +kernel
  exact fun s hs hv => excl_of_all_range h hs hv

def namedViewNotCopyableB : Bool := (List.range nStates).all fun s => !namedView s || !copyConstructible s

/-- **C16, copying.** `auto w = v;` does not compile for any named (lvalue) non-owning view state. -/
theorem named_view_not_copyable : ∀ s, s < nStates → namedView s = true → copyConstructible s = false := by
  have h : namedViewNotCopyableB = true := by decide +kernel
  exact fun s hs hv => excl_of_all_range h hs hv

/-- non-vacuity: there are const roots, mutable roots and paths, and `R` is larger than the set of const roots -/
example : constRoots ≠ [] ∧ mutRoots ≠ [] ∧ mutablePaths ≠ [] ∧ rSize > constRoots.length := by decide +kernel

/-- some const root has an edge to a state that is not a const root: `Reach allConstRoots` is more than the roots -/
example : ∃ s, Reach allConstRoots s ∧ s ∉ allConstRoots := by
  have h : (allConstRoots.any fun r => (adj.getD r []).any fun e => !allConstRoots.contains e.2) = true := by decide +kernel
  obtain ⟨r, hr, h⟩ := List.any_eq_true.mp h
  obtain ⟨⟨o, s⟩, he, hs⟩ := List.any_eq_true.mp h
  exact ⟨s, .step (.root hr) he, by simpa using hs⟩

/-- there are named view states, and view-reference states that accept assignment: `named_view_not_copyable` and
    `views_not_rebindable` are not vacuous -/
example : (∃ s, s < nStates ∧ namedView s = true) ∧ (∃ s, s < nStates ∧ viewRef s = true ∧ acceptsAssign s = true) := by
  have h1 : (List.range nStates).any (fun s => namedView s) = true := by decide +kernel
  have h2 : (List.range nStates).any (fun s => viewRef s && acceptsAssign s) = true := by decide +kernel
  obtain ⟨s, hs, h⟩ := List.any_eq_true.mp h1
  obtain ⟨t, ht, h'⟩ := List.any_eq_true.mp h2
  simp only [Bool.and_eq_true] at h'
  exact ⟨⟨s, List.mem_range.mp hs, h⟩, ⟨t, List.mem_range.mp ht, h'.1, h'.2⟩⟩

end Multi.C16
