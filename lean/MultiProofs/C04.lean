/-
  C04 — Owning arrays have value semantics (copy, move, assign, swap, decay).

  Vocabulary (MultiProofs/OwnSpec, OwnStep): an array denotes `AbsArr` (extensions + elements in
  canonical order), a pool of arrays named by numbers denotes `Nat → Option AbsArr` (`absPool`); `step` is the model's execution of one
  operation (MultiModel/Owning.lean, the transcription of array.hpp), `specStep` its documented effect on values; `Inv` is the
  pool invariant (every array valid; arrays with elements own pairwise different blocks; no UB, no failed assertion).
-/
import MultiProofs.OwnStep
import MultiProofs.OwnView

namespace Multi
namespace C04
open Own
variable {α : Type}

/-- **refinement, one step.**  For every operation of `VOp` (default / extensions / fill / copy (also from another element type,
    unary `+`) / iterator-range construction / construction from a view, move construction, move and copy assignment over any prior
    state, assignment from a view (both overloads), from another element type, from nested lists / ranges, swap, `std::swap`, clear, reshape,
    assign(extensions, value), the three reextent overloads, element write, destruction) executed in its domain
    on a pool satisfying the invariant: the invariant holds afterwards and the value of the resulting pool is the documented one. -/
theorem abs_step (cfg : Cfg α) (p : Pool α) (hi : Inv p) (op : VOp α) (hd : op.InDom p) :
    Inv (step cfg p op) ∧ absPool (step cfg p op) = specStep cfg (absPool p) op :=
  step_refines cfg p hi op hd

/-- **refinement, histories**: after any sequence of such operations every array equals its reference-model value. -/
theorem abs_history (cfg : Cfg α) (ops : List (VOp α)) (p : Pool α) (hi : Inv p) (hd : InDomAll cfg p ops) :
    Inv (run cfg p ops) ∧ absPool (run cfg p ops) = specRun cfg (absPool p) ops := by
  induction ops generalizing p with
  | nil => exact ⟨hi, rfl⟩
  | cons op ops ih =>
    obtain ⟨h1, h2⟩ := hd
    obtain ⟨i1, a1⟩ := abs_step cfg p hi op h1
    have := ih (step cfg p op) i1 h2
    simp only [run, specRun]
    rw [← a1]
    exact this

/-- in particular from the empty pool -/
theorem abs_history_from_empty (cfg : Cfg α) (ops : List (VOp α)) (hd : InDomAll cfg Pool.empty ops) :
    Inv (run cfg Pool.empty ops) ∧ absPool (run cfg Pool.empty ops) = specRun cfg (fun _ => none) ops :=
  abs_history cfg ops Pool.empty Inv.empty hd

/-- the abstraction is the observation of the correspondence run: reading a valid array through its index tuples in canonical order
    gives the cells of `absArr`, so a history's printed `arr` lines are determined by `specRun` -/
theorem observed_is_abstract {h : Heap α} {a : Arr} (hv : Valid h a) : elems h a = (absArr h a).elems.map some :=
  elems_eq_cells hv

/-- **independence (storage)**: in every reachable pool two different arrays that have elements own different blocks -/
theorem independent (cfg : Cfg α) (ops : List (VOp α)) (hd : InDomAll cfg (Pool.empty : Pool α) ops) (j k : Nat) (a b : Arr)
    (hjk : j ≠ k) (ha : (run cfg Pool.empty ops).arrs j = some a) (hb : (run cfg Pool.empty ops).arrs k = some b)
    (hna : a.numElements ≠ 0) (hnb : b.numElements ≠ 0) : a.base ≠ b.base :=
  (abs_history_from_empty cfg ops hd).1.sep j k a b hjk ha hb hna hnb

/-- **independence (values)**: an element write to one array changes no other array's value -/
theorem write_invisible (cfg : Cfg α) (p : Pool α) (hi : Inv p) (k : Nat) (idx : List Int) (v : α)
    (hd : (VOp.write k idx v).InDom p) (j : Nat) (hjk : j ≠ k) :
    absPool (step cfg p (.write k idx v)) j = absPool p j :=
  (step_slot cfg p hi _ hd rfl).2.2 j hjk

/-- a copy has the source's value and shares nothing with it: writing the copy leaves the original's value alone, and writing the
    original leaves the copy's value alone -/
theorem copy_independent (cfg : Cfg α) (p : Pool α) (hi : Inv p) (k src : Nat) (hd : (VOp.copy k src).InDom p) :
    let p1 := step cfg p (.copy k src)
    absPool p1 k = absPool p src ∧ absPool p1 src = absPool p src ∧
    (∀ idx v, (VOp.write k idx v).InDom p1 → absPool (step cfg p1 (.write k idx v)) src = absPool p src) ∧
    (∀ idx v, (VOp.write src idx v).InDom p1 → absPool (step cfg p1 (.write src idx v)) k = absPool p src) := by
  intro p1
  obtain ⟨i1, e1, eo⟩ := step_slot cfg p hi _ hd rfl
  obtain ⟨hk, b, hb⟩ := hd
  have hks : k ≠ src := fun e => nomatch (e ▸ hb).symm.trans hk
  have e2 := eo src hks.symm
  exact ⟨e1, e2, fun idx v hdw => (write_invisible cfg p1 i1 k idx v hdw src hks.symm).trans e2,
    fun idx v hdw => (write_invisible cfg p1 i1 src idx v hdw k hks).trans e1⟩

/-- **move construction**: the value goes to the new array, which holds the very block the source held (no element is copied, the heap
    is untouched); the source is left empty and valid -/
theorem move_leaves_empty_valid (cfg : Cfg α) (p : Pool α) (hi : Inv p) (k src : Nat) (b : Arr) (hk : p.arrs k = none)
    (hb : p.arrs src = some b) (hD : b.dim ≠ 0) :
    let p1 := step cfg p (.move k src)
    Inv p1 ∧ p1.heap = p.heap ∧ absPool p1 k = absPool p src ∧ absPool p1 src = some (emptyVal b.dim) ∧
    (∃ a' b', p1.arrs k = some a' ∧ p1.arrs src = some b' ∧ a'.base = b.base ∧ Valid p1.heap b' ∧ IsEmpty b') := by
  intro p1
  obtain ⟨i1, ek, eo⟩ := step_slot cfg p hi (.move k src) ⟨hk, b, hb, hD⟩ rfl
  have hks : src ≠ k := fun e => nomatch (e ▸ hb).symm.trans hk
  have hp1 : p1 = (p.set src (some (moveCtor b).2)).set k (some (moveCtor b).1) := by
    show step cfg p (.move k src) = _; simp only [step, hb]
  have hsrc : p1.arrs src = some ⟨none, emptyLay b.dim⟩ := by rw [hp1]; exact (upd_other _ _ hks).trans (upd_same _ _ _)
  refine ⟨i1, by rw [hp1]; rfl, ek, (eo src hks).trans ((upd_same _ _ _).trans ?_),
    ⟨(moveCtor b).1, _, by rw [hp1]; exact upd_same _ _ _, hsrc, rfl, i1.valid src _ hsrc, isEmpty_emptyLay none hD⟩⟩
  rw [absPool_some hb]; exact congrArg (some ∘ emptyVal) (exts_length b)

/-- **move assignment** over any prior state of the target: same statement; the only heap effect is the release of the target's old block -/
theorem move_assign_leaves_empty_valid (cfg : Cfg α) (p : Pool α) (hi : Inv p) (k src : Nat) (a b : Arr) (hks : k ≠ src)
    (ha : p.arrs k = some a) (hb : p.arrs src = some b) (hDa : a.dim ≠ 0) (hDb : b.dim ≠ 0) :
    let p1 := step cfg p (.massign k src)
    Inv p1 ∧ p1.heap = deallocate p.heap a ∧ absPool p1 k = absPool p src ∧ absPool p1 src = some (emptyVal b.dim) ∧
    (∃ a' b', p1.arrs k = some a' ∧ p1.arrs src = some b' ∧ a'.base = b.base ∧ Valid p1.heap b' ∧ IsEmpty b') := by
  intro p1
  obtain ⟨i1, ek, eo⟩ := step_slot cfg p hi (.massign k src) ⟨a, b, ha, hb, hDa, hDb⟩ (if_neg hks)
  have hp1 : p1 = ((p.withHeap (deallocate p.heap a)).set src (some ⟨b.base, emptyLay b.dim⟩)).set k (some ⟨b.base, b.lay⟩) := by
    show step cfg p (.massign k src) = _; simp only [step, ha, hb, hks, if_false, moveAssign, clear]
  have hsrc : p1.arrs src = some ⟨b.base, emptyLay b.dim⟩ := by rw [hp1]; exact (upd_other _ _ hks.symm).trans (upd_same _ _ _)
  refine ⟨i1, by rw [hp1]; rfl, ek, (eo src hks.symm).trans ((upd_same _ _ _).trans ?_),
    ⟨_, _, by rw [hp1]; exact upd_same _ _ _, hsrc, rfl, i1.valid src _ hsrc, isEmpty_emptyLay b.base hDb⟩⟩
  rw [absPool_some hb]; exact congrArg (some ∘ emptyVal) (exts_length b)

/-- **self-assignment changes nothing**: neither the pool nor the heap -/
theorem self_assign_id (cfg : Cfg α) (p : Pool α) (k : Nat) (a : Arr) (ha : p.arrs k = some a) :
    step cfg p (.cassign k k) = p ∧ step cfg p (.massign k k) = p := by
  constructor <;> simp [step, ha]

/-- **swap exchanges values** (and blocks: nothing is copied, the heap is untouched) -/
theorem swap_exchanges (cfg : Cfg α) (p : Pool α) (hi : Inv p) (j k : Nat) (a b : Arr) (ha : p.arrs j = some a) (hb : p.arrs k = some b)
    (hjk : j ≠ k) :
    let p1 := step cfg p (.swap j k)
    Inv p1 ∧ p1.heap = p.heap ∧ absPool p1 j = absPool p k ∧ absPool p1 k = absPool p j ∧ p1.arrs j = some b ∧ p1.arrs k = some a := by
  intro p1
  obtain ⟨i1, ek, eo⟩ := step_slot cfg p hi (.swap j k) ⟨a, b, ha, hb⟩ rfl
  have hp1 : p1 = (p.set j (some b)).set k (some a) := by
    show step cfg p (.swap j k) = _; simp only [step, ha, hb, Own.swap]
  exact ⟨i1, by rw [hp1]; rfl, (eo j hjk).trans (upd_same _ _ _), ek, by rw [hp1]; exact (upd_other _ _ hjk).trans (upd_same _ _ _),
    by rw [hp1]; exact upd_same _ _ _⟩

/-- **construction from a view of any layout** (`array(view)`, `+view`, `view.decay()`; `view` any WF view with at least one element
    whose elements lie in the live block `s` — by C01 every view reachable from an array is such): the element-wise copy through
    `elements().begin()`, `++`, … visits the view in canonical order (`Own.elemAddrs_eq`), so the new array has the view's extensions
    and exactly the elements the view designates, in a block that did not exist before; every other block is untouched. -/
theorem view_ctor_copies (h : Heap α) (s : Nat) (scs : List (Cell α)) (hs : Live h s scs) (v : View) (hv : C02.NonEmpty v)
    (hin : ∀ idx ∈ boxIndices v.exts, 0 ≤ v.addr idx ∧ (v.addr idx).toNat < scs.length) :
    let r := viewCtor h (some s) v
    Valid r.1 r.2 ∧ absArr r.1 r.2 = ⟨collapse v.exts, viewCells scs v⟩ ∧ r.1.ub = h.ub ∧ r.1.asrt = h.asrt ∧
    (∀ b cs, Live h b cs → Live r.1 b cs) ∧ (∀ b, r.2.base = some b → h.blocks.length ≤ b) := by
  intro r
  have ho := viewCtor_outcome h (some s) scs v hv.wf (fun _ => ⟨s, rfl, hs⟩) hin
  have hn : r.2.numElements ≠ 0 := by
    rw [← ho.valid.nElems_exts, show r.2.exts = collapse v.exts from congrArg AbsArr.exts ho.abs, nElems_collapse]
    show nElems v.lay.exts ≠ 0
    rw [← numElements_eq_nElems hv.wf, numElements_eq_prodSizes]
    exact Int.ne_of_gt (prodSizes_pos hv.pos)
  exact ⟨ho.valid, ho.abs, ho.ub, ho.asrt, fun b cs hl => ho.frame b cs hl (fun hf => hf),
    fun b hb => (ho.own hn b hb).resolve_left id⟩

/-- **operations whose source is a view of any layout**: `array(view)` / `+view` / `view.decay()` (`vctor`), `A = view` through
    `operator=(const_subarray const&)` (`vassign`) and through `operator=(Range&&)` with its reshape shortcut (`rassign`), the view being
    any chain `ops` of in-domain view-forming operations of C01 (index, sliced, range, strided, dropped, taked, rotated, unrotated,
    transposed, reversed, diagonal, partitioned, chunked, flatted, call syntax) on the array in slot `src`, over any prior state of the
    target (equal extensions: element-wise in place; equal element count: reshape, then in place; otherwise: temporary + move
    assignment) — README: the view must not alias the target (`k ≠ src`).  The target's value becomes the documented value of the view:
    the composed shape (collapsed) and the source's elements at the composed index map, in canonical order (`viewVal`); the source and
    every other array keep their values; the pool invariant (validity, pairwise distinct blocks) holds. -/
theorem abs_step_views (cfg : Cfg α) (p : Pool α) (hi : Inv p) (k src : Nat) (ops : List Op) :
    ((VOp.vctor k src ops).InDom p → Inv (step cfg p (.vctor k src ops)) ∧
      absPool (step cfg p (.vctor k src ops)) = upd (absPool p) k ((absPool p src).map fun x => viewVal x ops)) ∧
    ((VOp.vassign k src ops).InDom p → Inv (step cfg p (.vassign k src ops)) ∧
      absPool (step cfg p (.vassign k src ops)) = upd (absPool p) k ((absPool p src).map fun x => viewVal x ops)) ∧
    ((VOp.rassign k src ops).InDom p → Inv (step cfg p (.rassign k src ops)) ∧
      absPool (step cfg p (.rassign k src ops)) = upd (absPool p) k ((absPool p src).map fun x => viewVal x ops)) :=
  ⟨fun hd => step_refines cfg p hi _ hd, fun hd => step_refines cfg p hi _ hd, fun hd => step_refines cfg p hi _ hd⟩

/-- **assignment from an array of another element type** (same extensions: in place; same element count: reshape + in place; otherwise
    convert into a temporary and move-assign) and **`std::swap`** (move construction + two move assignments): the documented values -/
theorem abs_step_conv_stdswap (cfg : Cfg α) (p : Pool α) (hi : Inv p) (j k : Nat) :
    ((VOp.convassign k j).InDom p → Inv (step cfg p (.convassign k j)) ∧
      absPool (step cfg p (.convassign k j)) = upd (absPool p) k (absPool p j)) ∧
    ((VOp.stdswap j k).InDom p → Inv (step cfg p (.stdswap j k)) ∧
      absPool (step cfg p (.stdswap j k)) = upd (upd (absPool p) j (absPool p k)) k (absPool p j)) :=
  ⟨fun hd => step_refines cfg p hi _ hd, fun hd => step_refines cfg p hi _ hd⟩

/-- **construction and assignment from nested initializer lists / iterator ranges** (`array A{…}`, `A = {…}`, `A.assign(first, last)`)
    with `count` sub-arrays of extensions `inner` and the values `vals`, over any prior state: exactly the requested contents.  With the
    same number of rows and the same inner extensions the assignment happens in place, row by row (`ref::assign(first)`), and the array
    keeps its block and its extensions (index bases); otherwise the array is rebuilt from the range (temporary + move assignment) and
    gets the zero-based extensions of the range; the empty initializer list clears (`listVal`). -/
theorem abs_step_lists (cfg : Cfg α) (p : Pool α) (hi : Inv p) (k : Nat) (count : Int) (inner : List Ext) (vals : List α) :
    ((VOp.il k count inner vals).InDom p → Inv (step cfg p (.il k count inner vals)) ∧
      absPool (step cfg p (.il k count inner vals)) = upd (absPool p) k (some ⟨collapse (rangeExts count inner), vals.map some⟩)) ∧
    ((VOp.assignr k count inner vals).InDom p → Inv (step cfg p (.assignr k count inner vals)) ∧
      absPool (step cfg p (.assignr k count inner vals)) = upd (absPool p) k ((absPool p k).map fun x => listVal x count inner vals)) ∧
    ((VOp.ilassign k count inner vals).InDom p → Inv (step cfg p (.ilassign k count inner vals)) ∧
      absPool (step cfg p (.ilassign k count inner vals)) =
        upd (absPool p) k ((absPool p k).map fun x => if count = 0 then emptyVal x.exts.length else listVal x count inner vals)) :=
  ⟨fun hd => step_refines cfg p hi _ hd, fun hd => step_refines cfg p hi _ hd, fun hd => step_refines cfg p hi _ hd⟩

/-! ### the hypotheses are satisfiable (non-vacuity) -/

/-- a concrete history: `A(2×3, 7)`; `B = copy of A`; `B[1][2] = 9`; `C = move(B)`; `A.swap(C)` — in domain, and the values are the expected ones -/
example :
    let cfg : Cfg Int := ⟨true, 0⟩
    let ops : List (VOp Int) := [.fill 0 [⟨0, 2⟩, ⟨0, 3⟩] 7, .copy 1 0, .write 1 [1, 2] 9, .move 2 1, .swap 0 2]
    (specRun cfg (fun _ => none) ops 0).map (·.elems) = some [some 7, some 7, some 7, some 7, some 7, some 9] ∧
    (specRun cfg (fun _ => none) ops 2).map (·.elems) = some (List.replicate 6 (some 7)) ∧
    (specRun cfg (fun _ => none) ops 1).map (·.exts) = some [⟨0, 0⟩, ⟨0, 0⟩] := by
  decide +kernel

/-- views: `A = [[1,2,3],[4,5,6]]`; `B(A.transposed())`; `C(A(all, {1,3}))`; `B = A.rotated()[1]`-like chains — documented values -/
example :
    let cfg : Cfg Int := ⟨true, 0⟩
    let ops : List (VOp Int) := [.range 0 2 [⟨0, 3⟩] [1, 2, 3, 4, 5, 6], .vctor 1 0 [.transposed], .vctor 2 0 [.call [.all, .rng 1 3]],
      .vctor 3 0 [.index 1], .rassign 3 0 [.transposed, .index 2]]
    (specRun cfg (fun _ => none) ops 1).map (·.exts) = some [⟨0, 3⟩, ⟨0, 2⟩] ∧
    (specRun cfg (fun _ => none) ops 1).map (·.elems) = some [some 1, some 4, some 2, some 5, some 3, some 6] ∧
    (specRun cfg (fun _ => none) ops 2).map (·.elems) = some [some 2, some 3, some 5, some 6] ∧
    (specRun cfg (fun _ => none) ops 3).map (·.exts) = some [⟨0, 2⟩] ∧
    (specRun cfg (fun _ => none) ops 3).map (·.elems) = some [some 3, some 6] := by
  decide +kernel

/-- lists: a rebased 2×2 array assigned `{{1,2},{3,4}}` keeps its index bases (in place); assigned `{{1,2,3}}` it becomes 1×3 zero-based -/
example :
    let cfg : Cfg Int := ⟨true, 0⟩
    let r1 := specRun cfg (fun _ => none) [.fill 0 [⟨1, 3⟩, ⟨0, 2⟩] 7, .ilassign 0 2 [⟨0, 2⟩] [1, 2, 3, 4]] 0
    let r2 := specRun cfg (fun _ => none) [.fill 0 [⟨1, 3⟩, ⟨0, 2⟩] 7, .assignr 0 1 [⟨0, 3⟩] [1, 2, 3]] 0
    r1.map (·.exts) = some [⟨1, 3⟩, ⟨0, 2⟩] ∧ r1.map (·.elems) = some [some 1, some 2, some 3, some 4] ∧
    r2.map (·.exts) = some [⟨0, 1⟩, ⟨0, 3⟩] ∧ r2.map (·.elems) = some [some 1, some 2, some 3] := by
  decide +kernel

example : InDomAll (⟨true, 0⟩ : Cfg Int) Pool.empty [.fill 0 [⟨0, 2⟩, ⟨0, 3⟩] 7, .copy 1 0] :=
  ⟨⟨rfl, by unfold ExtsOK; decide⟩, ⟨rfl, _, rfl⟩, trivial⟩

end C04
end Multi
