/-
  MultiProofs.BlasSyrk — specification of the symmetric rank-k update C := alpha·A·Aᵀ + beta·C on ONE triangle of the logical
  matrix, and the certificate `SyrkOK` sufficient for: the xSYRK call is legal and its reference post-state is the
  specification (only the chosen triangle of C changes).  xSYRK and xHERK are one update of a triangle of a block
  (`rkUpdate`, with the new value of a cell as a parameter); `rkUpdate_spec` says what it does to the logical matrix C.
-/
import MultiModel.Blas
import MultiProofs.BlasLemmas
import MultiProofs.BlasGemm

namespace Multi.Blas
variable {R : Type} [CRing R] [DecidableEq R]

/-- (i, j) lies in the `side` triangle (diagonal included) of the logical matrix -/
def inTri (side : Filling) (i j : Int) : Prop :=
  match side with
  | .lower => j ≤ i
  | .upper => i ≤ j

instance (side : Filling) (i j : Int) : Decidable (inTri side i j) := by
  unfold inTri; cases side <;> exact inferInstance

structure SyrkSpec (alpha beta : R) (side : Filling) (a c : Mat) (mem mem' : Mem R) : Prop where
  elems : ∀ i j : Int, 0 ≤ i → i < c.n0 → 0 ≤ j → j < c.n1 → inTri side i j →
    c.load mem' i j = alpha * sumZ a.n1 (fun l => a.load mem i l * a.load mem j l) + beta * c.load mem i j
  frame : ∀ addr : Int, (¬ ∃ i j : Int, 0 ≤ i ∧ i < c.n0 ∧ 0 ≤ j ∧ j < c.n1 ∧ inTri side i j ∧ addr = c.addr i j) → mem' addr = mem addr

omit [CRing R] [DecidableEq R] in
def RankKCall.LegalSyrk (g : RankKCall R) (cplx : Bool) : Prop :=
  (g.uplo = 'U' ∨ g.uplo = 'L') ∧ (g.t = 'N' ∨ g.t = 'T' ∨ (g.t = 'C' ∧ cplx = false)) ∧ 0 ≤ g.n ∧ 0 ≤ g.k ∧
  1 ≤ g.lda ∧ (if g.t = 'N' then g.n else g.k) ≤ g.lda ∧ 1 ≤ g.ldc ∧ g.n ≤ g.ldc

omit [CRing R] [DecidableEq R] in
theorem syrk_illegal_none_iff (g : RankKCall R) (cplx : Bool) : g.illegal false cplx = none ↔ g.LegalSyrk cplx := by
  unfold RankKCall.illegal RankKCall.LegalSyrk
  cases cplx <;>
  simp only [ite_some_eq_none, isTrans, Bool.false_eq_true, if_false, if_true, Bool.not_eq_true', Bool.not_eq_false, Bool.or_eq_true,
    decide_eq_true_eq, Int.not_lt, maxI_le_iff, and_true, and_assoc, or_assoc, reduceCtorEq, and_false, or_false]

/-- the stored matrix of the call is the UNDERLYING (not conjugated) n×k matrix of `a` -/
def RkIsU (t : Char) (p ld n k : Int) (a : Mat) : Prop :=
  (n ≤ 0 ∨ k ≤ 0 ∨ p = a.base) ∧
  ((t = 'N' ∧ (n ≤ 1 ∨ a.s0 = 1) ∧ (k ≤ 1 ∨ a.s1 = ld)) ∨ (t ≠ 'N' ∧ (k ≤ 1 ∨ a.s1 = 1) ∧ (n ≤ 1 ∨ a.s0 = ld)))

omit [CRing R] [DecidableEq R] in
theorem rkIsU_elem {t : Char} {p ld n k : Int} {a : Mat} (h : RkIsU t p ld n k a) (mem : Mem R)
    {i l : Int} (hi0 : 0 ≤ i) (hi : i < n) (hl0 : 0 ≤ l) (hl : l < k) :
    rkElem t p ld mem i l = mem (a.base + i * a.s0 + l * a.s1) := by
  obtain ⟨hb, hc⟩ := h
  cases base_of_mem hi0 hi hl0 hl hb
  unfold rkElem
  rcases hc with ⟨ht, h1, h2⟩ | ⟨ht, h1, h2⟩
  · rw [if_pos ht, addr_colMajor hi0 hi hl0 hl h1 h2]
  · rw [if_neg ht, addr_rowMajor hi0 hi hl0 hl h1 h2]

/-- what a leaf has to show of the matrix operand of a rank-k update: the stored block is the underlying matrix of `a`
    (n rows as C, k columns) and its leading dimension passes the parameter check -/
structure RkOperand (t : Char) (p ld n k : Int) (a : Mat) : Prop where
  is : RkIsU t p ld n k a
  one_le : 1 ≤ ld
  le : (if t = 'N' then n else k) ≤ ld
  n : 0 ≤ n
  k : 0 ≤ k

section
variable {a : Mat} {n : Int} (hl : a.Lin) (e0 : a.n0 = n)
include hl e0

/-- read with 'N': the rows are contiguous, or there is only one -/
theorem RkOperand.N (h0 : n ≤ 1 ∨ a.s0 = 1) (hfit : n ≤ a.s1 ∨ a.n1 ≤ 1) : RkOperand 'N' a.base (legalLd a.s1 n) n a.n1 a :=
  ⟨⟨.inr (.inr rfl), .inl ⟨rfl, h0, legalLd_fit hfit⟩⟩,
    one_le_legalLd n hl.s1, le_legalLd a.s1 n, e0 ▸ hl.n0, hl.n1⟩

/-- column-major `a`, read with 'N' -/
theorem RkOperand.col (h0 : a.s0 = 1) : RkOperand 'N' a.base (legalLd a.s1 n) n a.n1 a :=
  RkOperand.N hl e0 (.inr h0) (e0 ▸ hl.col h0)

/-- row-major `a`, read with 'T' / 'C': the stored k×n block is its transpose -/
theorem RkOperand.row {t : Char} (ht : t ≠ 'N') (h1 : a.s1 = 1) : RkOperand t a.base (legalLd a.s0 a.n1) n a.n1 a :=
  ⟨⟨.inr (.inr rfl), .inr ⟨ht, .inr h1, legalLd_fit (e0 ▸ hl.row h1)⟩⟩,
    one_le_legalLd a.n1 hl.s0, (if_neg ht).symm ▸ le_legalLd a.s0 a.n1, e0 ▸ hl.n0, hl.n1⟩

end

section
variable {c : Mat} (hl : c.Lin) (hcj : c.cj = false) (hsq : c.n1 = c.n0)
include hl hcj hsq

/-- a square row-major C whose leading dimension is its outer stride: the block of the call is Cᵀ -/
theorem Operand.rowSq (h1 : c.s1 = 1) : Operand 'N' c.base c.s0 c.n0 c.n0 c.lmT :=
  Operand.colMajor' (M := c.lmT) hl.n0 hl.n0 hcj h1 (.inr rfl) hl.s0 (hl.le_s0 h1 (Int.le_refl _) (Int.le_of_eq hsq.symm))

/-- a square column-major C whose leading dimension is its inner stride -/
theorem Operand.colSq (h0 : c.s0 = 1) : Operand 'N' c.base c.s1 c.n0 c.n0 c.lm :=
  Operand.colMajor' (M := c.lm) hl.n0 hl.n0 hcj h0 (.inr rfl) hl.s1 (hl.le_s1 h0 (Int.le_refl _) (Int.le_of_eq hsq.symm))

end

/-- a C with at most one element is both its own block and the transpose of it, whatever the leading dimension -/
theorem Operand.single {c : Mat} {M : LMat} (hM : M.base = c.base ∧ M.cj = false) {ld : Int} (h0 : 0 ≤ c.n0) (h1 : c.n0 ≤ 1)
    (hld : 1 ≤ ld) : Operand 'N' c.base ld c.n0 c.n0 M :=
  ⟨⟨.inr (.inr hM.1.symm), .inl ⟨rfl, hM.2, .inl h1, .inl h1⟩⟩, hld, (if_pos rfl).symm ▸ Int.le_trans h1 hld, h0, h0⟩

/-- THE CERTIFICATE for xSYRK.  `tr`: the n×n block of the call is Cᵀ (C row-major), so the triangle named by the call is the
    mirror image; otherwise the block is C itself. -/
def SyrkOK (cl : Call R) (cplx : Bool) (alpha beta : R) (side : Filling) (a c : Mat) : Prop :=
  ∃ g, cl = .syrk g ∧ g.illegal false cplx = none ∧ g.alpha = alpha ∧ g.beta = beta ∧ g.n = c.n0 ∧ c.n1 = c.n0 ∧ g.k = a.n1 ∧
  RkIsU g.t g.a g.lda c.n0 a.n1 a ∧ a.cj = false ∧
  ∃ tr : Bool, OutIs g.c g.ldc c.n0 c.n0 (bif tr then c.lmT else c.lm) ∧ g.uplo = (bif tr then side else side.flip).char

omit [CRing R] [DecidableEq R] in
/-- a call with 'N' or 'T' on the plain matrix A, naming the triangle `side` of a block that is Cᵀ (`tr`) or the other one of a
    block that is C -/
theorem SyrkOK.of {cplx : Bool} {alpha beta : R} {side f : Filling} {a c : Mat} {t : Char} {lda ldc : Int}
    (ht : t = 'N' ∨ t = 'T') (hsq : c.n1 = c.n0) (hacj : a.cj = false) (hA : RkOperand t a.base lda c.n0 a.n1 a) (tr : Bool)
    (hC : Operand 'N' c.base ldc c.n0 c.n0 (bif tr then c.lmT else c.lm)) (hf : f = bif tr then side else side.flip) :
    SyrkOK (.syrk ⟨f.char, t, c.n0, a.n1, alpha, a.base, lda, beta, c.base, ldc⟩) cplx alpha beta side a c :=
  ⟨_, rfl, (syrk_illegal_none_iff _ cplx).mpr ⟨f.char_legal, ht.imp_right .inl, hA.n, hA.k, hA.one_le, hA.le, hC.one_le, hC.le_N⟩,
    rfl, rfl, rfl, hsq, rfl, hA.is, hacj, tr, hC.is.outIs, congrArg Filling.char hf⟩

/-- the triangle of its n×n block an xSYRK / xHERK call with the flag `uplo` works on -/
def blockTri (uplo : Char) (i j : Int) : Prop := (uplo = 'U' ∧ i ≤ j) ∨ (uplo = 'L' ∧ j ≤ i)

/-- in a block that is Cᵀ the triangle `side` of C is the one the flag of `side` names (filling.hpp: lower = 'U') -/
theorem blockTri_char {side : Filling} {i j : Int} : blockTri side.char j i ↔ inTri side i j := by
  cases side <;> simp [blockTri, Filling.char, inTri]

/-- in a block that is C itself it is the one the flag of the other filling names -/
theorem blockTri_flip_char {side : Filling} {i j : Int} : blockTri side.flip.char i j ↔ inTri side i j := by
  cases side <;> simp [blockTri, Filling.char, Filling.flip, inTri]

theorem inTri_self (side : Filling) (i : Int) : inTri side i i := by cases side <;> exact Int.le_refl i

/-- The reference xSYRK and xHERK have one shape: nothing happens when the call is illegal or returns at once; otherwise each
    cell (i, j) of the n×n block in the triangle the flag names goes from its value x to `F i j x`.  `g.execSyrk cplx mem` and
    `g.execHerk mem` unfold to it (with `F` as in `syrkOK_sound` and `herkCell`), which is how the soundness proofs use it. -/
def rkUpdate (g : RankKCall R) (ill : Option Nat) (F : Int → Int → R → R) (mem : Mem R) : Mem R :=
  if ill.isSome then mem
  else if g.n = 0 ∨ ((g.alpha = 0 ∨ g.k = 0) ∧ g.beta = 1) then mem
  else fun addr =>
    match cmIndex g.c g.ldc g.n g.n addr with
    | some (i, j) => if (g.uplo = 'U' ∧ i ≤ j) ∨ (g.uplo = 'L' ∧ j ≤ i) then F i j (mem addr) else mem addr
    | none => mem addr

theorem rkUpdate_same {g : RankKCall R} {ill : Option Nat} {F : Int → Int → R → R} (mem : Mem R) {addr : Int}
    (hno : ∀ i j, cmIndex g.c g.ldc g.n g.n addr = some (i, j) → ¬ blockTri g.uplo i j) : rkUpdate g ill F mem addr = mem addr := by
  unfold rkUpdate
  by_cases h1 : ill.isSome = true
  · rw [if_pos h1]
  by_cases hq : (g.n = 0 ∨ ((g.alpha = 0 ∨ g.k = 0) ∧ g.beta = 1))
  · rw [if_neg h1, if_pos hq]
  rw [if_neg h1, if_neg hq]
  cases hc : cmIndex g.c g.ldc g.n g.n addr with
  | none => rfl
  | some p => exact if_neg (hno p.1 p.2 hc)

theorem sumTo_zero (k : Nat) (f : Int → R) (h : ∀ l, f l = 0) : sumTo k f = 0 := by
  induction k with
  | zero => rfl
  | succ n ih => unfold sumTo; rw [ih, h, CRing.zero_add]

omit [DecidableEq R] in
/-- at the quick return (alpha = 0 or k = 0, and beta = 1) the update alpha·Σ + beta·x is x -/
theorem rk_quick {alpha beta : R} {k : Int} (h : (alpha = 0 ∨ k = 0) ∧ beta = 1) (f : Int → R) (x : R) :
    alpha * sumZ k f + beta * x = x := by
  obtain ⟨h, rfl⟩ := h
  rw [CRing.one_mul]
  rcases h with rfl | rfl
  · rw [CRing.zero_mul, CRing.zero_add]
  · exact (congrArg (· + x) (mul_zero' alpha)).trans (CRing.zero_add x)

/-- a cell of the output block C in the triangle of a legal call gets its new value; at the quick return that has to be the
    old one -/
theorem rkUpdate_cell {g : RankKCall R} {ill : Option Nat} {F : Int → Int → R → R} (hleg : ill = none) (hld : g.n ≤ g.ldc)
    {C : LMat} (hC : OutIs g.c g.ldc g.n g.n C) (mem : Mem R) {i j : Int} (hi0 : 0 ≤ i) (hi : i < g.n) (hj0 : 0 ≤ j) (hj : j < g.n)
    (htri : blockTri g.uplo i j)
    (hquick : (g.alpha = 0 ∨ g.k = 0) ∧ g.beta = 1 → F i j (mem (C.addr i j)) = mem (C.addr i j)) :
    rkUpdate g ill F mem (C.addr i j) = F i j (mem (C.addr i j)) := by
  unfold blockTri at htri
  unfold rkUpdate
  by_cases hq : (g.n = 0 ∨ ((g.alpha = 0 ∨ g.k = 0) ∧ g.beta = 1))
  · rw [if_pos hq, ite_self]
    exact (hquick (hq.resolve_left (by omega))).symm
  · simp only [hleg, Option.isSome_none, Bool.false_eq_true, if_false, hq, hC.cmIndex_addr hld hi0 hi hj0 hj, htri, if_true]

/-- What a legal call whose output block is C (`tr = false`: the call names the other triangle) or Cᵀ (`tr = true`: cell (j, i)
    of the block is C(i, j)) does to the logical matrix C: the `side` triangle is updated, nothing else changes. -/
theorem rkUpdate_spec {g : RankKCall R} {ill : Option Nat} {F : Int → Int → R → R} (hleg : ill = none) (hld : g.n ≤ g.ldc)
    {c : Mat} (hcc : c.cj = false) (hn : g.n = c.n0) (hsq : c.n1 = c.n0) {side : Filling} (tr : Bool)
    (hC : OutIs g.c g.ldc c.n0 c.n0 (bif tr then c.lmT else c.lm)) (hup : g.uplo = (bif tr then side else side.flip).char)
    (mem : Mem R)
    (hquick : (g.alpha = 0 ∨ g.k = 0) ∧ g.beta = 1 → ∀ i j : Int, 0 ≤ i → i < c.n0 → 0 ≤ j → j < c.n0 →
      (bif tr then F j i else F i j) (mem (c.addr i j)) = mem (c.addr i j)) :
    (∀ i j : Int, 0 ≤ i → i < c.n0 → 0 ≤ j → j < c.n1 → inTri side i j →
      c.load (rkUpdate g ill F mem) i j = (bif tr then F j i else F i j) (c.load mem i j)) ∧
    (∀ addr : Int, (¬ ∃ i j : Int, 0 ≤ i ∧ i < c.n0 ∧ 0 ≤ j ∧ j < c.n1 ∧ inTri side i j ∧ addr = c.addr i j) →
      rkUpdate g ill F mem addr = mem addr) := by
  rw [← hn] at hC
  cases tr
  · refine ⟨fun i j hi0 hi hj0 hj htri => ?_, fun addr hno => rkUpdate_same mem fun i j hci htr => ?_⟩
    · rw [Mat.load_plain hcc, Mat.load_plain hcc]
      exact rkUpdate_cell hleg hld hC mem hi0 (hn ▸ hi) hj0 (hn ▸ hsq ▸ hj) (hup ▸ blockTri_flip_char.mpr htri)
        fun hq => hquick hq i j hi0 hi hj0 (hsq ▸ hj)
    · obtain ⟨hadr, hi0, hi, hj0, hj⟩ := hC.of_cmIndex hci
      exact hno ⟨i, j, hi0, hn ▸ hi, hj0, hsq ▸ hn ▸ hj, blockTri_flip_char.mp (hup ▸ htr), hadr⟩
  · refine ⟨fun i j hi0 hi hj0 hj htri => ?_, fun addr hno => rkUpdate_same mem fun j i hci htr => ?_⟩
    · rw [Mat.load_plain hcc, Mat.load_plain hcc, ← c.lmT_addr]
      exact rkUpdate_cell hleg hld hC mem hj0 (hn ▸ hsq ▸ hj) hi0 (hn ▸ hi) (hup ▸ blockTri_char.mpr htri)
        fun hq => (c.lmT_addr i j).symm ▸ hquick hq i j hi0 hi hj0 (hsq ▸ hj)
    · obtain ⟨hadr, hj0, hj, hi0, hi⟩ := hC.of_cmIndex hci
      exact hno ⟨i, j, hi0, hn ▸ hi, hj0, hsq ▸ hn ▸ hj, blockTri_char.mp (hup ▸ htr), hadr.trans (c.lmT_addr i j)⟩

theorem syrkOK_sound {cl : Call R} {cplx : Bool} {alpha beta : R} {side : Filling} {a c : Mat} (hcc : c.cj = false)
    (h : SyrkOK cl cplx alpha beta side a c) :
    ∃ g, cl = .syrk g ∧ g.LegalSyrk cplx ∧ ∀ mem : Mem R, SyrkSpec alpha beta side a c mem (g.execSyrk cplx mem) := by
  obtain ⟨g, rfl, hleg, rfl, rfl, hn, hsq, hk, hA, hacj, tr, hC, hup⟩ := h
  refine ⟨g, rfl, (syrk_illegal_none_iff g cplx).mp hleg, fun mem => ?_⟩
  have hld : g.n ≤ g.ldc := ((syrk_illegal_none_iff g cplx).mp hleg).2.2.2.2.2.2.2
  rw [← hn, ← hk] at hA
  -- the sum the call forms for a cell of its block is that of A·Aᵀ, which is symmetric
  have hsum : ∀ i j : Int, 0 ≤ i → i < c.n0 → 0 ≤ j → j < c.n0 →
      sumZ g.k (fun l => rkElem g.t g.a g.lda mem i l * rkElem g.t g.a g.lda mem j l) = sumZ a.n1 (fun l => a.load mem i l * a.load mem j l) := by
    intro i j hi0 hi hj0 hj
    rw [hk]
    apply sumZ_congr
    intro l hl0 hl
    rw [rkIsU_elem hA mem hi0 (hn ▸ hi) hl0 (hk ▸ hl), rkIsU_elem hA mem hj0 (hn ▸ hj) hl0 (hk ▸ hl), Mat.load_plain hacj, Mat.load_plain hacj]
    rfl
  obtain ⟨he, hf⟩ := rkUpdate_spec
    (F := fun i j x => g.alpha * sumZ g.k (fun l => rkElem g.t g.a g.lda mem i l * rkElem g.t g.a g.lda mem j l) + g.beta * x)
    hleg hld hcc hn hsq tr hC hup mem
    fun hq i j _ _ _ _ => by cases tr <;> exact rk_quick hq _ _
  refine ⟨fun i j hi0 hi hj0 hj htri => (he i j hi0 hi hj0 hj htri).trans ?_, hf⟩
  cases tr
  · exact congrArg (g.alpha * · + _) (hsum i j hi0 hi hj0 (hsq ▸ hj))
  · exact congrArg (g.alpha * · + _) ((hsum j i hj0 (hsq ▸ hj) hi0 hi).trans (sumZ_congr fun l _ _ => CRing.mul_comm _ _))

end Multi.Blas
