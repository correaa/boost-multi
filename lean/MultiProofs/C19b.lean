/-
  MultiProofs.C19b — `stenciled(e₀, e₁, …)`: the block keeps the original indices in every stencilled dimension.
-/
import MultiProofs.C19

namespace Multi
namespace C19

/-- each stencil extension is a non-empty sub-range of the corresponding dimension's extension -/
def stencilInDomain : List Ext → List Ext → Prop
  | [], _ => True
  | s :: ss, e :: es => (e.first ≤ s.first ∧ s.first < s.last ∧ s.last ≤ e.last) ∧ stencilInDomain ss es
  | _ :: _, [] => False

def stencilShape : List Ext → List Ext → List Ext
  | [], es => es
  | s :: ss, _ :: es => s :: stencilShape ss es
  | _ :: _, [] => []

theorem stencilInDomain_append {ss es : List Ext} (x : List Ext) (h : stencilInDomain ss es) : stencilInDomain ss (es ++ x) := by
  induction ss generalizing es with
  | nil => trivial
  | cons s ss ih =>
    cases es with
    | nil => exact absurd h (by simp [stencilInDomain])
    | cons e es => exact ⟨h.1, ih h.2⟩

theorem stencilShape_append {ss es : List Ext} (x : List Ext) (h : stencilInDomain ss es) :
    stencilShape ss (es ++ x) = stencilShape ss es ++ x := by
  induction ss generalizing es with
  | nil => rfl
  | cons s ss ih =>
    cases es with
    | nil => exact absurd h (by simp [stencilInDomain])
    | cons e es => simp only [List.cons_append, stencilShape]; rw [ih h.2]

theorem stenciled_cons (v : View) (s : Ext) (ss : List Ext) (hss : ss ≠ []) :
    v.stenciled (s :: ss) = ((v.blocked s.first s.last).rotated.stenciled ss).unrotated := by
  cases ss with
  | nil => exact absurd rfl hss
  | cons _ _ => rfl

/-- `stenciled(e₀, e₁, …)` (slice, re-index, rotate, recurse, unrotate): a view with exactly the given
    extensions in the stencilled dimensions whose element at an index tuple is the original's at the same tuple -/
theorem stenciled_refines (ss : List Ext) : ∀ v : View, v.lay.WF → stencilInDomain ss v.exts →
    Refines v (v.stenciled ss) (stencilShape ss v.exts) (fun idx => idx) := by
  induction ss with
  | nil => intro v hwf _; exact Refines.id v hwf
  | cons s ss ih =>
    intro v hwf hd
    cases hv : v.lay with
    | nil => simp [View.exts, hv, Layout.exts, stencilInDomain] at hd
    | cons d sub =>
      have hne : v.lay ≠ [] := by rw [hv]; simp
      have hex := View.exts_cons hv
      rw [hex] at hd ⊢
      obtain ⟨⟨h1, h2, h3⟩, hrest⟩ := hd
      have hb : Refines v (v.blocked s.first s.last) (s :: Layout.exts sub) (fun idx => idx) := by
        have := blocked_refines v s.first s.last hwf ⟨hne, by rw [View.ext_cons hv]; exact h1, by omega, by rw [View.ext_cons hv]; exact h3⟩ h2
        rwa [hex] at this
      by_cases hss : ss = []
      · subst hss
        simp only [View.stenciled, stencilShape]
        exact hb
      · rw [stenciled_cons v s ss hss]
        have r2 := rotated_refines (v.blocked s.first s.last) hb.1
        rw [hb.2.1] at r2
        simp only [Op.specShape] at r2
        have r3 := ih (v.blocked s.first s.last).rotated r2.1 (by rw [r2.2.1]; exact stencilInDomain_append _ hrest)
        rw [r2.2.1, stencilShape_append _ hrest] at r3
        have r4 := unrotated_refines ((v.blocked s.first s.last).rotated.stenciled ss) r3.1
        rw [r3.2.1] at r4
        have hshape4 : Op.unrotated.specShape (stencilShape ss (Layout.exts sub) ++ [s]) = s :: stencilShape ss (Layout.exts sub) := by
          simp [Op.specShape]
        rw [hshape4] at r4
        have all := (hb.trans r2).trans (r3.trans r4)
        simp only [stencilShape]
        apply all.congr rfl
        intro idx hidx
        obtain ⟨t, r, rfl, _, _, _⟩ := inBox_cons hidx
        simp [Op.specMap]

end C19
end Multi
