/-
  MultiProofs.BlasTrsm — legality of an xTRSM call as a conjunction (dtrsm.f parameter checks).
-/
import MultiModel.Blas
import MultiProofs.BlasGemm

namespace Multi.Blas
variable {R : Type}

def TrsmCall.Legal (g : TrsmCall R) : Prop :=
  (g.side = 'L' ∨ g.side = 'R') ∧ (g.uplo = 'U' ∨ g.uplo = 'L') ∧ isTrans g.t = true ∧ (g.diag = 'U' ∨ g.diag = 'N') ∧
  0 ≤ g.m ∧ 0 ≤ g.n ∧ 1 ≤ g.lda ∧ (if g.side = 'L' then g.m else g.n) ≤ g.lda ∧ 1 ≤ g.ldb ∧ g.m ≤ g.ldb

theorem trsm_illegal_none_iff (g : TrsmCall R) : g.illegal = none ↔ g.Legal := by
  unfold TrsmCall.illegal TrsmCall.Legal
  simp only [ite_some_eq_none, Bool.not_eq_true', Bool.not_eq_false, Bool.or_eq_true, decide_eq_true_eq, Int.not_lt, maxI_le_iff, and_true, and_assoc]

/-- a call on B as it is, with flag characters from the enumerations, is legal when A has a unit stride and the other stride
    is its leading dimension, A is as large as the side of B it multiplies, and the leading dimension of B is `legalLd` of
    its inner stride.  A call on the transpose of B, where the sides swap, is the instance `b.tr`, `s.swap`. -/
theorem trsm_legal {s : Side} {f : Filling} {d : Diag} {t : Char} {alpha : R} {a b : Mat} {lda : Int} (wa : a.WF) (wb : b.WF)
    (hl : s = .left → b.n0 ≤ a.n0 ∧ b.n0 ≤ a.n1) (hr : s = .right → b.n1 ≤ a.n0 ∧ b.n1 ≤ a.n1) (ht : isTrans t = true)
    (hlda : (a.s0 = 1 ∧ lda = a.s1) ∨ (a.s1 = 1 ∧ lda = a.s0)) :
    TrsmCall.Legal (⟨s.char, f.char, t, d.char, b.n0, b.n1, alpha, a.base, lda, b.base, legalLd b.s1 b.n0⟩ : TrsmCall R) := by
  have hA : 1 ≤ lda ∧ ∀ x, x ≤ a.n0 ∧ x ≤ a.n1 → x ≤ lda := by
    rcases hlda with ⟨h0, rfl⟩ | ⟨h1, rfl⟩
    · exact ⟨wa.s1, fun x h => wa.lin.le_s1 h0 h.1 h.2⟩
    · exact ⟨wa.s0, fun x h => wa.lin.le_s0 h1 h.1 h.2⟩
  refine ⟨s.char_legal, f.char_legal, ht, d.char_legal, wb.n0, wb.n1, hA.1, ?_, one_le_legalLd _ wb.s1, le_legalLd _ _⟩
  cases s
  · exact hA.2 _ (hl rfl)
  · exact hA.2 _ (hr rfl)

end Multi.Blas
