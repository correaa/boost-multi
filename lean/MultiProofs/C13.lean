/-
  MultiProofs.C13 — property C13: the BLAS adaptor gives the mathematical result for every accepted view combination.

  The dispatch chains are the REGENERATED definitions of MultiModel.Gen.BlasDispatch (tools/gen_blas_dispatch.py, from the
  current /repo); the semantics of a call is the reference BLAS of MultiModel.Blas.  This file is written for the source
  WITH the repairs fixes/C13-*.patch applied (legal leading dimensions, the corrected / removed leaves, the added
  assertions): every leaf of `gemm_n`, `gemv_n`, `syrk`, `herk` is then correct and the statements are FULL.  Structure, per chain:

    * `<chain>_branch_<n>_ok`   one lemma per generated leaf: under the view invariants and the leaf's guard, the call of the
                                leaf satisfies the certificate (`GemmOK`, …), hence is legal and computes the mathematical result,
                                changing only the output.  Its proof says which product the call forms (C = A·B on the blocks as
                                they are, or Cᵀ = Bᵀ·Aᵀ) and, for each operand, the storage order and the flag it is read with;
    * `<op>_correct`            the assembly by case analysis (`<chain>.elim`, generated).
  Still partial: `trsm` (legality of every call is proved, the solution is validated by the differential run only),
  `rejected_is_inexpressible` (the library over-rejects, which C13 permits).
-/
import MultiModel.Blas
import MultiModel.BlasFront
import MultiModel.Gen.BlasDispatch
import MultiProofs.BlasLemmas
import MultiProofs.BlasShapes
import MultiProofs.BlasGemm
import MultiProofs.BlasGemv
import MultiProofs.BlasLevel1
import MultiProofs.BlasSyrk
import MultiProofs.BlasHerk
import MultiProofs.BlasTrsm

namespace Multi.C13
open Multi.Blas Multi.Blas.Gen

variable {R : Type} [CRing R]

section gemm
variable {alpha beta : R} {a b c : Mat}

/-- hypotheses common to the leaves: the view invariants (in linear form), fitting sizes, the conjugation pattern the
    overload is selected for -/
structure GHyp (ca cb : Bool) (a b c : Mat) : Prop where
  la : a.Lin
  lb : b.Lin
  lc : c.Lin
  hm : a.n0 = c.n0
  hk : a.n1 = b.n0
  hn : b.n1 = c.n1
  ha : a.cj = ca
  hb : b.cj = cb
  hc : c.cj = false

theorem GHyp.of {a b c : Mat} {ca cb : Bool} (hs : GemmShapes a b c) (ha : a.cj = ca) (hb : b.cj = cb) (hc : c.cj = false) : GHyp ca cb a b c :=
  ⟨hs.wa.lin, hs.wb.lin, hs.wc.lin, hs.m, hs.k, hs.n, ha, hb, hc⟩

/-- gemm.hpp:69 — A, B, C column-major: C = A·B directly -/
theorem gemm_nn_branch_2_ok (H : GHyp false false a b c) (h : gemm_n_nn.guard_2 a b c) :
    GemmOK (gemm_n_nn.call_2 alpha beta a b c) alpha beta a b c := by
  obtain ⟨-, -, -, -, -, -, -, ⟨a0, b0⟩, c0⟩ := h
  exact .direct H.hm H.hn rfl (.colN H.la a0 H.ha rfl rfl) (.colN H.lb b0 H.hb H.hk.symm rfl)
    (.colN H.lc c0 H.hc H.hm.symm H.hn.symm)

/-- gemm.hpp:71 — A, B column-major, C row-major: Cᵀ = Bᵀ·Aᵀ, both operands transposed -/
theorem gemm_nn_branch_3_ok (H : GHyp false false a b c) (h : gemm_n_nn.guard_3 a b c) :
    GemmOK (gemm_n_nn.call_3 alpha beta a b c) alpha beta a b c := by
  obtain ⟨-, -, -, -, -, -, -, -, ⟨a0, b0⟩, c1⟩ := h
  exact .transposed H.hn H.hm rfl (.colT H.lb b0 (.inl ⟨rfl, H.hb⟩) H.hk.symm rfl) (.colT H.la a0 (.inl ⟨rfl, H.ha⟩) rfl rfl)
    (.rowN H.lc c1 H.hc H.hm.symm H.hn.symm)

/-- gemm.hpp:63 — A column-major, B row-major, C column-major -/
theorem gemm_nn_branch_4_ok (H : GHyp false false a b c) (h : gemm_n_nn.guard_4 a b c) :
    GemmOK (gemm_n_nn.call_4 alpha beta a b c) alpha beta a b c := by
  obtain ⟨-, -, -, -, ⟨a0, b1⟩, c0⟩ := h
  exact .direct H.hm H.hn rfl (.colN H.la a0 H.ha rfl rfl) (.rowT H.lb b1 (.inl ⟨rfl, H.hb⟩) H.hk.symm rfl)
    (.colN H.lc c0 H.hc H.hm.symm H.hn.symm)

/-- gemm.hpp:61 — A column-major, B and C row-major -/
theorem gemm_nn_branch_5_ok (H : GHyp false false a b c) (h : gemm_n_nn.guard_5 a b c) :
    GemmOK (gemm_n_nn.call_5 alpha beta a b c) alpha beta a b c := by
  obtain ⟨-, -, -, ⟨a0, b1⟩, c1⟩ := h
  exact .transposed rfl H.hm rfl (.rowN H.lb b1 H.hb H.hk.symm H.hn) (.colT H.la a0 (.inl ⟨rfl, H.ha⟩) rfl rfl)
    (.rowN H.lc c1 H.hc H.hm.symm rfl)

/-- gemm.hpp:65 — A row-major, B and C column-major (the leaf that exchanged m and n before the repair) -/
theorem gemm_nn_branch_6_ok (H : GHyp false false a b c) (h : gemm_n_nn.guard_6 a b c) :
    GemmOK (gemm_n_nn.call_6 alpha beta a b c) alpha beta a b c := by
  obtain ⟨-, -, -, -, -, ⟨a1, b0⟩, c0⟩ := h
  exact .direct H.hm H.hn rfl (.rowT H.la a1 (.inl ⟨rfl, H.ha⟩) rfl rfl) (.colN H.lb b0 H.hb H.hk.symm rfl)
    (.colN H.lc c0 H.hc H.hm.symm H.hn.symm)

/-- gemm.hpp:67 — A row-major, B column-major, C row-major -/
theorem gemm_nn_branch_7_ok (H : GHyp false false a b c) (h : gemm_n_nn.guard_7 a b c) :
    GemmOK (gemm_n_nn.call_7 alpha beta a b c) alpha beta a b c := by
  obtain ⟨-, -, -, -, -, -, ⟨a1, b0⟩, c1⟩ := h
  exact .transposed rfl H.hm rfl (.colT H.lb b0 (.inl ⟨rfl, H.hb⟩) H.hk.symm H.hn) (.rowN H.la a1 H.ha rfl rfl)
    (.rowN H.lc c1 H.hc H.hm.symm rfl)

/-- gemm.hpp:59 — A, B row-major, C column-major -/
theorem gemm_nn_branch_8_ok (H : GHyp false false a b c) (h : gemm_n_nn.guard_8 a b c) :
    GemmOK (gemm_n_nn.call_8 alpha beta a b c) alpha beta a b c := by
  obtain ⟨-, -, ⟨a1, b1⟩, c0⟩ := h
  exact .direct H.hm H.hn rfl (.rowT H.la a1 (.inl ⟨rfl, H.ha⟩) rfl rfl) (.rowT H.lb b1 (.inl ⟨rfl, H.hb⟩) H.hk.symm rfl)
    (.colN H.lc c0 H.hc H.hm.symm H.hn.symm)

/-- gemm.hpp:57 — the main leaf: A, B, C row-major, Cᵀ = Bᵀ·Aᵀ -/
theorem gemm_nn_branch_9_ok (H : GHyp false false a b c) (h : gemm_n_nn.guard_9 a b c) :
    GemmOK (gemm_n_nn.call_9 alpha beta a b c) alpha beta a b c := by
  obtain ⟨-, ⟨a1, b1⟩, c1⟩ := h
  exact .transposed H.hn H.hm rfl (.rowN H.lb b1 H.hb H.hk.symm rfl) (.rowN H.la a1 H.ha rfl rfl)
    (.rowN H.lc c1 H.hc H.hm.symm H.hn.symm)

/-- gemm.hpp:91 — A·conj(B), A and B column-major, C row-major: Cᵀ = Bᴴ·Aᵀ -/
theorem gemm_nc_branch_2_ok (H : GHyp false true a b c) (h : gemm_n_nc.guard_2 a b c) :
    GemmOK (gemm_n_nc.call_2 alpha beta a b c) alpha beta a b c := by
  obtain ⟨-, -, ⟨a0, b0⟩, c1⟩ := h
  exact .transposed rfl H.hm rfl (.colT H.lb b0 (.inr ⟨rfl, H.hb⟩) H.hk.symm H.hn) (.colT H.la a0 (.inl ⟨rfl, H.ha⟩) rfl rfl)
    (.rowN H.lc c1 H.hc H.hm.symm rfl)

/-- gemm.hpp:89 — A·conj(B), A row-major, B column-major, C row-major -/
theorem gemm_nc_branch_3_ok (H : GHyp false true a b c) (h : gemm_n_nc.guard_3 a b c) :
    GemmOK (gemm_n_nc.call_3 alpha beta a b c) alpha beta a b c := by
  obtain ⟨-, ⟨a1, b0⟩, c1⟩ := h
  exact .transposed rfl H.hm rfl (.colT H.lb b0 (.inr ⟨rfl, H.hb⟩) H.hk.symm H.hn) (.rowN H.la a1 H.ha rfl rfl)
    (.rowN H.lc c1 H.hc H.hm.symm rfl)

/-- gemm.hpp:109 — conj(A)·B, A column-major, B and C row-major: Cᵀ = Bᵀ·Aᴴ -/
theorem gemm_cn_branch_2_ok (H : GHyp true false a b c) (h : gemm_n_cn.guard_2 a b c) :
    GemmOK (gemm_n_cn.call_2 alpha beta a b c) alpha beta a b c := by
  obtain ⟨-, ⟨a0, b1⟩, c1⟩ := h
  exact .transposed rfl H.hm rfl (.rowN H.lb b1 H.hb H.hk.symm H.hn) (.colT H.la a0 (.inr ⟨rfl, H.ha⟩) rfl rfl)
    (.rowN H.lc c1 H.hc H.hm.symm rfl)

/-- gemm.hpp:126 — conj(A)·conj(B), A and B column-major, C row-major: Cᵀ = Bᴴ·Aᴴ -/
theorem gemm_cc_branch_2_ok (H : GHyp true true a b c) (h : gemm_n_cc.guard_2 a b c) :
    GemmOK (gemm_n_cc.call_2 alpha beta a b c) alpha beta a b c := by
  obtain ⟨-, ⟨a0, b0⟩, c1⟩ := h
  exact .transposed rfl H.hm rfl (.colT H.lb b0 (.inr ⟨rfl, H.hb⟩) H.hk.symm H.hn) (.colT H.la a0 (.inr ⟨rfl, H.ha⟩) rfl rfl)
    (.rowN H.lc c1 H.hc H.hm.symm rfl)

end gemm

theorem gemm_nn_certified {nd : Bool} {alpha beta : R} {a b c : Mat} {t : Nat} {cl : Call R}
    (H : GHyp false false a b c) (h : gemm_n_nn nd alpha beta a b c = .call t cl) : GemmOK cl alpha beta a b c := by
  apply gemm_n_nn.elim h
  · exact gemm_nn_branch_2_ok H
  · exact gemm_nn_branch_3_ok H
  · exact gemm_nn_branch_4_ok H
  · exact gemm_nn_branch_5_ok H
  · exact gemm_nn_branch_6_ok H
  · exact gemm_nn_branch_7_ok H
  · exact gemm_nn_branch_8_ok H
  · exact gemm_nn_branch_9_ok H

theorem gemm_nc_certified {nd : Bool} {alpha beta : R} {a b c : Mat} {t : Nat} {cl : Call R}
    (H : GHyp false true a b c) (h : gemm_n_nc nd alpha beta a b c = .call t cl) : GemmOK cl alpha beta a b c := by
  apply gemm_n_nc.elim h
  · exact gemm_nc_branch_2_ok H
  · exact gemm_nc_branch_3_ok H

theorem gemm_cn_certified {nd : Bool} {alpha beta : R} {a b c : Mat} {t : Nat} {cl : Call R}
    (H : GHyp true false a b c) (h : gemm_n_cn nd alpha beta a b c = .call t cl) : GemmOK cl alpha beta a b c := by
  apply gemm_n_cn.elim h
  exact gemm_cn_branch_2_ok H

theorem gemm_cc_certified {nd : Bool} {alpha beta : R} {a b c : Mat} {t : Nat} {cl : Call R}
    (H : GHyp true true a b c) (h : gemm_n_cc nd alpha beta a b c = .call t cl) : GemmOK cl alpha beta a b c := by
  apply gemm_n_cc.elim h
  exact gemm_cc_branch_2_ok H

theorem gemm_n_certified {nd : Bool} {alpha beta : R} {a b c : Mat} {t : Nat} {cl : Call R}
    (hs : GemmShapes a b c) (hc : c.cj = false) (h : gemm_n nd alpha beta a b c = .call t cl) :
    GemmOK cl alpha beta a b c := by
  unfold gemm_n at h
  cases ha : a.cj <;> cases hb : b.cj <;> simp only [ha, hb] at h
  · exact gemm_nn_certified (GHyp.of hs ha hb hc) h
  · exact gemm_nc_certified (GHyp.of hs ha hb hc) h
  · exact gemm_cn_certified (GHyp.of hs ha hb hc) h
  · exact gemm_cc_certified (GHyp.of hs ha hb hc) h

/-- **dispatch_legal** and **gemm_correct** for `gemm_n` (FULL: all sizes incl. 0 and 1, all strides within the view
    invariants, all scalars, every conjugation pattern, assertion-enabled or NDEBUG build): every call is legal for the reference
    BLAS, its post-state is C := alpha·A·B + beta·C on the logical contents, and no address outside the image of C changes
    (in particular A and B, which do not overlap C, are unchanged). -/
theorem gemm_n_correct {nd : Bool} {alpha beta : R} {a b c : Mat} {t : Nat} {cl : Call R}
    (hs : GemmShapes a b c) (hc : c.cj = false) (h : gemm_n nd alpha beta a b c = .call t cl) :
    ∃ g, cl = .gemm g ∧ g.Legal ∧ ∀ mem : Mem R, GemmSpec alpha beta a b c mem (g.exec mem) :=
  gemmOK_sound hc (gemm_n_certified hs hc h)

theorem load_conj (m : Mat) (mem : Mem R) (i j : Int) : m.conj.load mem i j = CRing.conj (m.load mem i j) := by
  unfold Mat.load Mat.conj cjIf
  cases h : m.cj <;> simp [CRing.conj_conj]

theorem wf_conj {m : Mat} (h : m.WF) : m.conj.WF := ⟨h.n0, h.n1, h.s0, h.s1, h.fam⟩

theorem shapes_conj {a b c : Mat} (h : GemmShapes a b c) : GemmShapes a.conj b.conj c.conj :=
  ⟨wf_conj h.wa, wf_conj h.wb, wf_conj h.wc, h.m, h.k, h.n⟩

/-- conj(C) := conj(alpha)·conj(A)·conj(B) + conj(beta)·conj(C)  is  C := alpha·A·B + beta·C -/
theorem gemmSpec_of_conj {alpha beta : R} {a b c : Mat} {mem mem' : Mem R}
    (h : GemmSpec (CRing.conj alpha) (CRing.conj beta) a.conj b.conj c.conj mem mem') : GemmSpec alpha beta a b c mem mem' := by
  constructor
  · intro i j hi0 hi hj0 hj
    have e := h.elems i j hi0 hi hj0 hj
    have e2 := congrArg CRing.conj e
    rw [load_conj, CRing.conj_conj, CRing.conj_add, CRing.conj_mul, CRing.conj_mul, CRing.conj_conj, CRing.conj_conj, load_conj, CRing.conj_conj, conj_sumZ] at e2
    rw [e2]
    congr 2
    apply sumZ_congr
    intro l _ _
    rw [CRing.conj_mul, load_conj, load_conj, CRing.conj_conj, CRing.conj_conj]
  · exact h.frame

/-- **gemm_correct** — `blas::gemm(alpha, a, b, beta, c)`, any conjugation pattern of A, B and C (FULL): the call is legal, the
    post-state is C := alpha·A·B + beta·C on the LOGICAL contents (conjugations applied), only the image of C is modified. -/
theorem gemm_correct {nd : Bool} {alpha beta : R} {a b c : Mat} {t : Nat} {cl : Call R}
    (hs : GemmShapes a b c) (h : Front.gemm nd alpha beta a b c = .call t cl) :
    ∃ g, cl = .gemm g ∧ g.Legal ∧ ∀ mem : Mem R, GemmSpec alpha beta a b c mem (g.exec mem) := by
  have h := call_of_assert (call_of_assert h)
  cases hc : c.cj
  · simp only [hc, Bool.false_eq_true, if_false] at h
    exact gemm_n_correct hs hc h
  · simp only [hc, if_true] at h
    obtain ⟨g, hg, hl, hsp⟩ := gemm_n_correct (shapes_conj hs) (congrArg (!·) hc) (call_of_assert (call_of_assert h))
    exact ⟨g, hg, hl, fun mem => gemmSpec_of_conj (hsp mem)⟩

/-- `c = blas::gemm(alpha, a, b)` (also `c = a * b`): C := alpha·A·B + 0·C -/
theorem gemm_assign_correct {nd : Bool} {alpha : R} {a b c : Mat} {t : Nat} {cl : Call R}
    (hs : GemmShapes a b c) (hc : c.cj = false) (h : Front.gemmAssign nd alpha a b c = .call t cl) :
    ∃ g, cl = .gemm g ∧ g.Legal ∧ ∀ mem : Mem R, GemmSpec alpha 0 a b c mem (g.exec mem) :=
  gemm_n_correct hs hc (call_of_assert (call_of_assert h))

/-- `c += blas::gemm(alpha, a, b)` (also `c += a * b`): C := alpha·A·B + 1·C -/
theorem gemm_pluseq_correct {nd : Bool} {alpha : R} {a b c : Mat} {t : Nat} {cl : Call R}
    (hs : GemmShapes a b c) (hc : c.cj = false) (h : Front.gemmPlusEq nd alpha a b c = .call t cl) :
    ∃ g, cl = .gemm g ∧ g.Legal ∧ ∀ mem : Mem R, GemmSpec alpha 1 a b c mem (g.exec mem) :=
  gemm_n_correct hs hc (call_of_assert h)

/-- the lazy forms reject operands whose inner dimensions do not fit (assertion-enabled builds): with repair 19
    `gemm(ctxtp, s, a, b)` asserts it, as the in-place `gemm` does -/
theorem gemm_range_rejects_mismatch {alpha : R} {a b c : Mat} (ha : a.n0 ≠ 0) (hk : a.n1 ≠ b.n0) :
    Front.gemmAssign false alpha a b c = .assertFail 0 ∧ Front.gemmPlusEq false alpha a b c = .assertFail 0 := by
  unfold Front.gemmAssign Front.gemmPlusEq
  have e : (¬ false = true ∧ gemmRangeChecksInner = true ∧ ¬ (a.n0 = 0) ∧ ¬ (a.n1 = b.n0)) := ⟨by decide, by decide, ha, hk⟩
  rw [if_pos e, if_pos e]
  exact ⟨rfl, rfl⟩

section gemv
variable [DecidableEq R]

/-- view invariants and fitting sizes for y := alpha·M·x + beta·y (x and y are plain vectors: conjugated ones do not compile) -/
structure GemvHyp (m : Mat) (x y : Vec) : Prop where
  lm : m.Lin
  xn : 0 ≤ x.n
  xi : 1 ≤ x.inc
  yn : 0 ≤ y.n
  yi : 1 ≤ y.inc
  hm : m.n0 = y.n
  hk : m.n1 = x.n
  hx : x.cj = false
  hy : y.cj = false

omit [CRing R] [DecidableEq R] in
/-- a call on the vectors as they are whose matrix operand is M, with the sizes in the order the flag asks for -/
theorem GemvHyp.ok {alpha beta : R} {m : Mat} {x y : Vec} (H : GemvHyp m x y) {t : Char} {gm gn lda : Int} (hk : ¬ m.n1 = 0)
    (hM : Operand t m.base lda m.n0 m.n1 m.lm) (hsz : (t = 'N' ∧ gm = m.n0 ∧ gn = m.n1) ∨ (t ≠ 'N' ∧ gn = m.n0 ∧ gm = m.n1)) :
    GemvOK (.gemv ⟨t, gm, gn, alpha, m.base, lda, x.base, x.inc, beta, y.base, y.inc⟩) alpha beta m x y := by
  have hk1 : 1 ≤ m.n1 := Int.lt_iff_le_and_ne.mpr ⟨hM.cols, Ne.symm hk⟩
  refine ⟨_, rfl, (gemv_illegal_none_iff _).mpr ⟨hM.is.isTrans, ?_, ?_, hM.one_le, ?_, Int.ne_of_gt H.xi, Int.ne_of_gt H.yi⟩,
    rfl, rfl, H.hx, H.hy, rfl, rfl, rfl, rfl, H.yi, hk1, H.hm.symm, hsz, hM.is⟩
  all_goals rcases hsz with ⟨ht, rfl, rfl⟩ | ⟨ht, rfl, rfl⟩
  · exact hM.rows
  · exact hM.cols
  · exact hM.cols
  · exact hM.rows
  · exact Int.le_trans (Int.le_of_eq (if_pos ht).symm) hM.le
  · exact Int.le_trans (Int.le_of_eq (if_neg ht).symm) hM.le

omit [DecidableEq R] in
/-- gemv.hpp:30 — M column-major: 'N' -/
theorem gemv_branch_5_ok {alpha beta : R} {m : Mat} {x y : Vec} (H : GemvHyp m x y) (h : gemv_n.guard_5 m x y) :
    GemvOK (gemv_n.call_5 alpha beta m x y) alpha beta m x y :=
  H.ok h.1 (.colN H.lm h.2.2 (Bool.eq_false_iff.mpr h.2.1) rfl rfl) (.inl ⟨rfl, rfl, rfl⟩)

omit [DecidableEq R] in
/-- gemv.hpp:31 — M row-major: 'T' on the transposed storage -/
theorem gemv_branch_6_ok {alpha beta : R} {m : Mat} {x y : Vec} (H : GemvHyp m x y) (h : gemv_n.guard_6 m x y) :
    GemvOK (gemv_n.call_6 alpha beta m x y) alpha beta m x y :=
  H.ok h.1 (.rowT H.lm h.2.2.2 (.inl ⟨rfl, Bool.eq_false_iff.mpr h.2.1⟩) rfl rfl) (.inr ⟨by decide, rfl, rfl⟩)

omit [DecidableEq R] in
/-- gemv.hpp:34 — conj(M), M row-major: 'C' -/
theorem gemv_branch_3_ok {alpha beta : R} {m : Mat} {x y : Vec} (H : GemvHyp m x y) (h : gemv_n.guard_3 m x y) :
    GemvOK (gemv_n.call_3 alpha beta m x y) alpha beta m x y :=
  H.ok h.1 (.rowT H.lm h.2.2 (.inr ⟨rfl, Decidable.not_not.mp h.2.1⟩) rfl rfl) (.inr ⟨by decide, rfl, rfl⟩)

/-- gemv.hpp:28 — a matrix without columns: y := beta·y by xSCAL (xGEMV would return without scaling y) -/
theorem gemv_branch_2_ok {alpha beta : R} {m : Mat} {x y : Vec} (H : GemvHyp m x y) (h : gemv_n.guard_2 m x y) :
    ∃ g, gemv_n.call_2 alpha beta m x y = .scal g ∧ ∀ mem : Mem R, GemvSpec alpha beta m x y mem (g.execScal mem) := by
  refine ⟨_, rfl, fun mem => ?_⟩
  have hs := scal_sound (alpha := beta) (py := 0) (iy := 0) H.hm H.hy H.yi mem
  have hz : m.n1 = 0 := h
  constructor
  · intro i hi0 hi
    rw [hs.elems i hi0 hi, hz]
    show beta * y.load mem i = alpha * sumTo 0 _ + beta * y.load mem i
    unfold sumTo
    rw [mul_zero', CRing.zero_add]
  · exact hs.frame

/-- **gemv_correct** for `gemv_n` (FULL): whatever leaf is taken, the call is legal and the post-state is
    y := alpha·M·x + beta·y on the logical contents; nothing but the image of y changes. -/
theorem gemv_n_correct {nd cplx : Bool} {alpha beta : R} {m : Mat} {x y : Vec} {t : Nat} {cl : Call R}
    (H : GemvHyp m x y) (h : gemv_n nd alpha beta m x y = .call t cl) :
    cl.illegalL cplx false = none ∧ ∀ mem : Mem R, GemvSpec alpha beta m x y mem (cl.execL cplx false mem) := by
  apply gemv_n.elim h
  · intro g
    obtain ⟨c, hc, hsp⟩ := gemv_branch_2_ok (alpha := alpha) (beta := beta) H g
    rw [hc]
    exact ⟨rfl, hsp⟩
  · exact fun g => gemvOK_sound (gemv_branch_3_ok H g)
  · exact fun g => gemvOK_sound (gemv_branch_5_ok H g)
  · exact fun g => gemvOK_sound (gemv_branch_6_ok H g)

/-- `blas::gemv(alpha, M, x, beta, y)` -/
theorem gemv_correct {nd cplx : Bool} {alpha beta : R} {m : Mat} {x y : Vec} {t : Nat} {cl : Call R}
    (H : GemvHyp m x y) (h : Front.gemv nd alpha beta m x y = .call t cl) :
    cl.illegalL cplx false = none ∧ ∀ mem : Mem R, GemvSpec alpha beta m x y mem (cl.execL cplx false mem) :=
  gemv_n_correct H (call_of_assert (call_of_assert h))

/-- `y = blas::gemv(alpha, M, x)`: beta = 0 -/
theorem gemv_assign_correct {nd cplx : Bool} {alpha : R} {m : Mat} {x y : Vec} {t : Nat} {cl : Call R}
    (H : GemvHyp m x y) (h : Front.gemvAssign nd alpha m x y = .call t cl) :
    cl.illegalL cplx false = none ∧ ∀ mem : Mem R, GemvSpec alpha 0 m x y mem (cl.execL cplx false mem) :=
  gemv_n_correct H (call_of_assert (call_of_assert h))

/-- `y += blas::gemv(alpha, M, x)`: beta = 1 -/
theorem gemv_pluseq_correct {nd cplx : Bool} {alpha : R} {m : Mat} {x y : Vec} {t : Nat} {cl : Call R}
    (H : GemvHyp m x y) (h : Front.gemvPlusEq nd alpha m x y = .call t cl) :
    cl.illegalL cplx false = none ∧ ∀ mem : Mem R, GemvSpec alpha 1 m x y mem (cl.execL cplx false mem) :=
  gemv_n_correct H (call_of_assert h)

end gemv

/-! ## syrk (syrk.hpp; also reached by `herk` on real element types) -/
section syrk

macro "syrk_branch" s:ident c:ident : tactic => `(tactic| (
  refine ⟨_, rfl, ?_⟩
  unfold SyrkOK
  rw [syrk_illegal_none_iff]
  cases $s:ident <;> cases $c:ident <;>
  (simp only [RankKCall.LegalSyrk, OutIs, RkIs, Mat.lm, Mat.lmT, Mat.Lin, Mat.RowOK, Mat.ColOK, Filling.char, Filling.flip] at *
   simp (config := {decide := true}) only [true_and, and_true, true_or, or_true, if_true, if_false, false_and, and_false, false_or, or_false, ne_eq, not_true_eq_false, not_false_eq_true, true_implies, *] at *
   simp only [legalLd] at *
   omega)))

/-- view invariants for C := alpha·A·Aᵀ + beta·C: C square, as many rows as A, nothing conjugated, and — what syrk.hpp:22-23
    assert — A and C have a unit stride (anything else is not a BLAS matrix) -/
structure SyrkHyp (a c : Mat) : Prop where
  la : a.Lin
  lc : c.Lin
  hn : a.n0 = c.n0
  hsq : c.n1 = c.n0
  ha : a.cj = false
  hc : c.cj = false
  ua : a.s0 = 1 ∨ a.s1 = 1
  uc : c.s0 = 1 ∨ c.s1 = 1

variable {cplx : Bool} {side : Filling} {alpha beta : R} {a c : Mat}

/-- syrk.hpp:34 — A and C row-major -/
theorem syrk_branch_1_ok (H : SyrkHyp a c) (h : syrk.guard_1 side a c) :
    SyrkOK (syrk.call_1 side alpha beta a c) cplx alpha beta side a c :=
  .of (.inr rfl) H.hsq H.ha (.row H.la H.hn (by decide) (H.ua.resolve_left h.1))
    true (.rowSq H.lc H.hc H.hsq (H.uc.resolve_left h.2)) rfl

/-- syrk.hpp:28 — A column-major, C row-major -/
theorem syrk_branch_2_ok (H : SyrkHyp a c) (h : syrk.guard_2 side a c) :
    SyrkOK (syrk.call_2 side alpha beta a c) cplx alpha beta side a c :=
  .of (.inl rfl) H.hsq H.ha (.col H.la H.hn h.1) true (.rowSq H.lc H.hc H.hsq (H.uc.resolve_left h.2)) rfl

/-- syrk.hpp:26 — A and C column-major -/
theorem syrk_branch_3_ok (H : SyrkHyp a c) (h : syrk.guard_3 side a c) :
    SyrkOK (syrk.call_3 side alpha beta a c) cplx alpha beta side a c :=
  .of (.inl rfl) H.hsq H.ha (.col H.la H.hn h.1) false (.colSq H.lc H.hc H.hsq h.2) rfl

/-- syrk.hpp:32 — A row-major, C column-major -/
theorem syrk_branch_4_ok (H : SyrkHyp a c) (h : syrk.guard_4 side a c) :
    SyrkOK (syrk.call_4 side alpha beta a c) cplx alpha beta side a c :=
  .of (.inr rfl) H.hsq H.ha (.row H.la H.hn (by decide) (H.ua.resolve_left h.1)) false (.colSq H.lc H.hc H.hsq h.2) rfl

end syrk

/-- **syrk_correct** (FULL): whatever leaf is taken, the xSYRK call is legal and C := alpha·A·Aᵀ + beta·C on the `side` triangle
    of the logical matrix; nothing else (in particular the other triangle) changes. -/
theorem syrk_correct [DecidableEq R] {nd cplx : Bool} {side : Filling} {alpha beta : R} {a c : Mat} {t : Nat} {cl : Call R}
    (H : SyrkHyp a c) (h : Gen.syrk nd side alpha beta a c = .call t cl) :
    ∃ g, cl = .syrk g ∧ g.LegalSyrk cplx ∧ ∀ mem : Mem R, SyrkSpec alpha beta side a c mem (g.execSyrk cplx mem) := by
  apply syrkOK_sound H.hc
  apply syrk.elim h
  · exact syrk_branch_1_ok H
  · exact syrk_branch_2_ok H
  · exact syrk_branch_3_ok H
  · exact syrk_branch_4_ok H

/-- syrk.hpp:22-23 — in an assertion-enabled build a matrix A or C without a unit stride is rejected before any call -/
theorem syrk_nonunit_rejected {side : Filling} {alpha beta : R} {a c : Mat}
    (h : ¬ (a.s0 = 1 ∨ a.s1 = 1) ∨ ¬ (c.s0 = 1 ∨ c.s1 = 1)) :
    ∃ t, Gen.syrk false side alpha beta a c = .assertFail t := by
  unfold Gen.syrk
  by_cases c1 : ¬ false = true ∧ ¬ (c.n0 = c.n1)
  · rw [if_pos c1]; exact ⟨_, rfl⟩
  rw [if_neg c1]
  by_cases c2 : ¬ false = true ∧ ¬ ((a.s0 = 1) ∨ (a.s1 = 1))
  · rw [if_pos c2]; exact ⟨_, rfl⟩
  rw [if_neg c2]
  by_cases c3 : ¬ false = true ∧ ¬ ((c.s0 = 1) ∨ (c.s1 = 1))
  · rw [if_pos c3]; exact ⟨_, rfl⟩
  exfalso
  rcases h with h | h
  · exact c2 ⟨by decide, h⟩
  · exact c3 ⟨by decide, h⟩

/-! ## herk, complex element types (herk.hpp) — for a non-conjugated C -/
section herk

macro "herk_branch" s:ident : tactic => `(tactic| (
  refine ⟨_, rfl, ?_⟩
  unfold HerkOK
  rw [herk_illegal_none_iff]
  cases $s:ident <;>
  (simp only [RankKCall.LegalHerk, OutIs, RkIsU, Mat.lm, Mat.lmT, Mat.Lin, Mat.RowOK, Mat.ColOK, Filling.char, Filling.flip] at *
   simp (config := {decide := true}) only [true_and, and_true, true_or, or_true, if_true, if_false, false_and, and_false, false_or, or_false, ne_eq, not_true_eq_false, not_false_eq_true, Decidable.not_not, true_implies, *] at *
   simp only [legalLd] at *
   omega)))

/-- view invariants for C := alpha·A·Aᴴ + beta·C: C square and not conjugated, as many rows as A, and — what herk.hpp:112-113
    assert — A and C have a unit stride -/
structure HerkHyp (a c : Mat) : Prop where
  la : a.Lin
  lc : c.Lin
  hn : a.n0 = c.n0
  hsq : c.n1 = c.n0
  hc : c.cj = false
  ua : a.s0 = 1 ∨ a.s1 = 1
  uc : c.s0 = 1 ∨ c.s1 = 1

variable {side : Filling} {alpha beta : R} {a c : Mat}

/-- herk.hpp:142 — A and C column-major -/
theorem herk_branch_1_ok (H : HerkHyp a c) (h : herk_plain.guard_1 side a c) :
    ∃ g, herk_plain.call_1 side alpha beta a c = .herk g ∧ HerkOK g alpha beta side a c := by
  obtain ⟨-, -, ha, -, -, -, a0, c0⟩ := h
  exact ⟨_, rfl, .of H.hsq (.col H.la H.hn a0) false (.colSq H.lc H.hc H.hsq c0) rfl (.inl ⟨rfl, Bool.eq_false_iff.mpr ha⟩)⟩

/-- herk.hpp:138 — a single row A (row-major) into a 1×1 C: the `uplo` of the call is the one of the other triangle, which for a
    1×1 matrix is the same cell -/
theorem herk_branch_4_ok (H : HerkHyp a c) (h : herk_plain.guard_4 side a c) :
    ∃ g, herk_plain.call_4 side alpha beta a c = .herk g ∧ HerkOK g alpha beta side.flip a c := by
  obtain ⟨-, -, ha, -, ⟨-, c0⟩, a1⟩ := h
  have hn : c.n0 = 1 := H.hn.symm.trans a1
  exact ⟨_, rfl, .of H.hsq (.N H.la H.hn (.inl (Int.le_of_eq hn)) (.inl (hn ▸ H.la.s1)))
    false (.colSq H.lc H.hc H.hsq c0) side.flip_flip.symm (.inl ⟨rfl, Bool.eq_false_iff.mpr ha⟩)⟩

/-- herk.hpp:136 — A and C row-major: Cᵀ = (Aᴴ)ᴴ·Aᴴ with the 'C' flag on the stored k×n matrix -/
theorem herk_branch_5_ok (H : HerkHyp a c) (h : herk_plain.guard_5 side a c) :
    ∃ g, herk_plain.call_5 side alpha beta a c = .herk g ∧ HerkOK g alpha beta side a c := by
  obtain ⟨-, -, ha, a0, c0⟩ := h
  exact ⟨_, rfl, .of H.hsq (.row H.la H.hn (by decide) (H.ua.resolve_left a0))
    true (.rowSq H.lc H.hc H.hsq (H.uc.resolve_left c0)) rfl (.inr ⟨rfl, Bool.eq_false_iff.mpr ha⟩)⟩

/-- herk.hpp:128 — conj(A) with a single row, contiguous 1×1 C -/
theorem herk_branch_8_ok (H : HerkHyp a c) (h : herk_plain.guard_8 side a c) :
    ∃ g, herk_plain.call_8 side alpha beta a c = .herk g ∧ HerkOK g alpha beta side a c := by
  obtain ⟨-, -, ha, -, ⟨a0, c0⟩, a1⟩ := h
  exact ⟨_, rfl, .of H.hsq (.col H.la H.hn a0)
    true (.single ⟨rfl, H.hc⟩ H.lc.n0 (Int.le_of_eq (H.hn.symm.trans a1)) (Int.le_of_eq c0.symm)) rfl (.inl ⟨rfl, ha⟩)⟩

/-- herk.hpp:126 — conj(A) column-major, C row-major -/
theorem herk_branch_9_ok (H : HerkHyp a c) (h : herk_plain.guard_9 side a c) :
    ∃ g, herk_plain.call_9 side alpha beta a c = .herk g ∧ HerkOK g alpha beta side a c := by
  obtain ⟨-, -, ha, a0, c0⟩ := h
  exact ⟨_, rfl, .of H.hsq (.col H.la H.hn a0) true (.rowSq H.lc H.hc H.hsq (H.uc.resolve_left c0)) rfl (.inl ⟨rfl, ha⟩)⟩

/-- herk.hpp:131 — conj(A) row-major, C column-major -/
theorem herk_branch_10_ok (H : HerkHyp a c) (h : herk_plain.guard_10 side a c) :
    ∃ g, herk_plain.call_10 side alpha beta a c = .herk g ∧ HerkOK g alpha beta side a c := by
  obtain ⟨-, -, ha, -, -, a0, c0⟩ := h
  exact ⟨_, rfl, .of H.hsq (.row H.la H.hn (by decide) (H.ua.resolve_left a0))
    false (.colSq H.lc H.hc H.hsq c0) rfl (.inr ⟨rfl, ha⟩)⟩

end herk

/-- on a matrix C with at most one row the two triangles are the same cell -/
theorem herkSpec_single_flip {alpha beta : R} {side : Filling} {a c : Mat} {mem mem' : Mem R} (h1 : c.n0 ≤ 1) (hsq : c.n1 = c.n0)
    (h : HerkSpec alpha beta side.flip a c mem mem') : HerkSpec alpha beta side a c mem mem' := by
  refine ⟨?_, h.diag, fun addr hno => h.frame addr fun ⟨i, j, hi0, hi, hj0, hj, _, hadr⟩ =>
    hno ⟨i, j, hi0, hi, hj0, hj, (show i = j by omega) ▸ inTri_self side i, hadr⟩⟩
  intro i j hi0 hi hj0 hj _ hne
  omega

theorem herkOK_correct [DecidableEq R] {side : Filling} {alpha beta : R} {a c : Mat} {cl : Call R} (hc : c.cj = false)
    (h : ∃ g, cl = .herk g ∧ HerkOK g alpha beta side a c) :
    ∃ g, cl = .herk g ∧ g.LegalHerk ∧
      ∀ mem : Mem R, (∀ i : Int, 0 ≤ i → i < c.n0 → CRing.conj (c.load mem i i) = c.load mem i i) → HerkSpec alpha beta side a c mem (g.execHerk mem) := by
  obtain ⟨g, hg, hok⟩ := h
  exact ⟨g, hg, (herk_illegal_none_iff g).mp hok.1, herkOK_sound hc hok⟩

/-- **herk_correct** (FULL for a non-conjugated C), Hermitian input (real diagonal): whatever leaf is taken, the xHERK call is
    legal and C := alpha·A·Aᴴ + beta·C on the `side` triangle (the diagonal loses its imaginary part), nothing else changes.
    Stated for `herk_plain`, which IS `herk` for a non-conjugated C (`herk_eq_plain`). -/
theorem herk_correct [DecidableEq R] {nd : Bool} {side : Filling} {alpha beta : R} {a c : Mat} {t : Nat} {cl : Call R}
    (H : HerkHyp a c) (h : herk_plain nd side alpha beta a c = .call t cl) :
    ∃ g, cl = .herk g ∧ g.LegalHerk ∧
      ∀ mem : Mem R, (∀ i : Int, 0 ≤ i → i < c.n0 → CRing.conj (c.load mem i i) = c.load mem i i) → HerkSpec alpha beta side a c mem (g.execHerk mem) := by
  apply herk_plain.elim h
  · exact fun gd => herkOK_correct H.hc (herk_branch_1_ok H gd)
  · intro gd
    obtain ⟨g, hg, hl, hsp⟩ := herkOK_correct H.hc (herk_branch_4_ok (alpha := alpha) (beta := beta) H gd)
    exact ⟨g, hg, hl, fun mem hdg => herkSpec_single_flip (Int.le_of_eq (H.hn.symm.trans gd.2.2.2.2.2)) H.hsq (hsp mem hdg)⟩
  · exact fun gd => herkOK_correct H.hc (herk_branch_5_ok H gd)
  · exact fun gd => herkOK_correct H.hc (herk_branch_8_ok H gd)
  · exact fun gd => herkOK_correct H.hc (herk_branch_9_ok H gd)
  · exact fun gd => herkOK_correct H.hc (herk_branch_10_ok H gd)

/-- for a non-conjugated C the complex `herk` runs exactly `herk_plain` -/
theorem herk_eq_plain {nd : Bool} {side : Filling} {alpha beta : R} {a c : Mat} (hc : c.cj = false) :
    Gen.herk nd side alpha beta a c = herk_plain nd side alpha beta a c := by
  unfold Gen.herk herk_plain
  simp only [hc, Bool.false_eq_true, if_false]
  rfl

section level1

/-- **axpy_correct** — `blas::axpy(alpha, x, y)` (also `y += alpha*x`, `y += x`, `y -= x` with the corresponding scalar):
    y := alpha·x + y on the logical contents; only the image of y changes.  Plain vectors with positive strides. -/
theorem axpy_correct {nd : Bool} {alpha : R} {x y : Vec} {t : Nat} {cl : Call R}
    (hx : x.cj = false) (hy : y.cj = false) (hxi : 1 ≤ x.inc) (hyi : 1 ≤ y.inc)
    (h : Front.axpy nd alpha x y = .call t cl) :
    ∃ g, cl = .axpy g ∧ ∀ mem : Mem R, AxpySpec alpha x y mem (g.execAxpy mem) := by
  apply axpy_n.elim (call_of_assert h)
  exact fun _ => ⟨_, rfl, axpy_sound rfl hx hy hyi⟩

/-- `y += blas::axpy(alpha, x)` / `y -= blas::axpy(alpha, x)` (the latter with -alpha): needs the sizes to agree, which the
    range form asserts only in assertion-enabled builds -/
theorem axpy_range_correct {nd : Bool} {alpha : R} {x y : Vec} {t : Nat} {cl : Call R}
    (hx : x.cj = false) (hy : y.cj = false) (hxi : 1 ≤ x.inc) (hyi : 1 ≤ y.inc) (hn : x.n = y.n)
    (h : Front.axpyRange nd alpha x y = .call t cl) :
    ∃ g, cl = .axpy g ∧ ∀ mem : Mem R, AxpySpec alpha x y mem (g.execAxpy mem) := by
  apply axpy_n.elim (call_of_assert h)
  exact fun _ => ⟨_, rfl, axpy_sound hn hx hy hyi⟩

/-- **scal_correct** — `blas::scal(alpha, x)` / `x *= alpha` -/
theorem scal_correct {nd : Bool} {alpha : R} {x : Vec} {t : Nat} {cl : Call R}
    (hx : x.cj = false) (hxi : 1 ≤ x.inc) (h : Front.scal nd alpha x = .call t cl) :
    ∃ g, cl = .scal g ∧ ∀ mem : Mem R, ScalSpec alpha x mem (g.execScal mem) := by
  apply scal_n.elim h
  exact fun _ => ⟨_, rfl, scal_sound rfl hx hxi⟩

/-- **copy_correct** — `blas::copy(x, y)` / `y << x` -/
theorem copy_correct {nd : Bool} {x y : Vec} {t : Nat} {cl : Call R}
    (hx : x.cj = false) (hy : y.cj = false) (hxi : 1 ≤ x.inc) (hyi : 1 ≤ y.inc) (hn : x.n = y.n)
    (h : Front.copy nd x y = .call t cl) :
    ∃ g, cl = .copy g ∧ ∀ mem : Mem R, CopySpec x y mem (g.execCopy mem) := by
  apply copy_n.elim (call_of_assert h)
  exact fun _ => ⟨_, rfl, copy_sound hn hx hy hyi⟩

/-- `y = blas::copy(x)` -/
theorem copy_assign_correct {nd : Bool} {x y : Vec} {t : Nat} {cl : Call R}
    (hx : x.cj = false) (hy : y.cj = false) (hxi : 1 ≤ x.inc) (hyi : 1 ≤ y.inc) (hn : x.n = y.n)
    (h : Front.copyAssign nd x y = .call t cl) :
    ∃ g, cl = .copy g ∧ ∀ mem : Mem R, CopySpec x y mem (g.execCopy mem) := by
  apply copy_n.elim (call_of_assert h)
  exact fun _ => ⟨_, rfl, copy_sound hn hx hy hyi⟩

/-- **swap_correct** — `blas::swap(x, y)` for views that do not overlap -/
theorem swap_correct {nd : Bool} {x y : Vec} {t : Nat} {cl : Call R}
    (hx : x.cj = false) (hy : y.cj = false) (hxi : 1 ≤ x.inc) (hyi : 1 ≤ y.inc) (hn : x.n = y.n)
    (hdis : ∀ i j : Int, 0 ≤ i → i < x.n → 0 ≤ j → j < y.n → x.addr i ≠ y.addr j)
    (h : Front.swap nd x y = .call t cl) :
    ∃ g, cl = .swap g ∧ ∀ mem : Mem R, SwapSpec x y mem (g.execSwap mem) := by
  apply swap_n.elim (call_of_assert h)
  exact fun _ => ⟨_, rfl, fun mem => swap_sound hn hx hy hyi mem hxi hn hdis⟩

theorem dotResult_dot {ty : Char} {g : L1Call R} {mem : Mem R} :
    Front.dotResult ty (.dot g) mem = some (dotVal false g.n g.x g.incx g.y g.incy mem) := by
  simp only [Front.dotResult]
  rw [if_neg]
  intro c
  exact absurd c.2.2 (by decide)

theorem dotResult_dotu {ty : Char} {g : L1Call R} {mem : Mem R} :
    Front.dotResult ty (.dotu g) mem = some (dotVal false g.n g.x g.incx g.y g.incy mem) := by
  simp only [Front.dotResult]
  rw [if_neg]
  intro c
  exact absurd c.2 (by decide)

theorem dotResult_dotc {ty : Char} {g : L1Call R} {mem : Mem R} :
    Front.dotResult ty (.dotc g) mem = some (dotVal true g.n g.x g.incx g.y g.incy mem) := rfl

/-- Σ x_i·y_i on the logical contents -/
def dotSpec (x y : Vec) (mem : Mem R) : R := sumZ x.n (fun i => x.load mem i * y.load mem i)

theorem dotVal_eq_spec {x y : Vec} (mem : Mem R) {n : Int} {cj : Bool} (hn : n = x.n) (hx : x.cj = cj) (hy : y.cj = false) :
    dotVal cj n x.base x.inc y.base y.inc mem = dotSpec x y mem := by
  subst hn hx
  unfold dotVal dotSpec Vec.load
  rw [hy]
  rfl

theorem dotSpec_comm {x y : Vec} (mem : Mem R) (hn : x.n = y.n) : dotSpec y x mem = dotSpec x y mem := by
  unfold dotSpec
  rw [hn]
  exact sumZ_congr fun i _ _ => CRing.mul_comm _ _

/-- **dot_correct** (FULL) — `blas::dot(x, y)` with x, y, or one of them conjugated (`blas::C`), any element type `ty`: a value
    IS delivered (also for empty vectors: core.hpp guards its xGEMV calls, `coreDotGemvGuardsEmpty`) and it is Σ x_i·y_i on the
    logical contents; memory is not modified by the routine. -/
theorem dot_correct {nd cplx : Bool} {ty : Char} {x y : Vec} {t : Nat} {cl : Call R} (mem : Mem R)
    (hn : x.n = y.n) (hc : cplx = false → x.cj = false ∧ y.cj = false)
    (h : Front.dot nd cplx x y = .call t cl) : Front.dotResult ty cl mem = some (dotSpec x y mem) := by
  apply dot_n.elim (call_of_assert h)
  · -- dotc(x_u, y): x conjugated
    rintro ⟨-, -, -, hx, hy⟩
    exact dotResult_dotc.trans (congrArg some (dotVal_eq_spec mem rfl hx (Bool.eq_false_iff.mpr hy)))
  · -- dotc(y_u, x): y conjugated
    rintro ⟨-, -, hy, hx⟩
    exact dotResult_dotc.trans (congrArg some ((dotVal_eq_spec mem hn hy (Bool.eq_false_iff.mpr hx)).trans (dotSpec_comm mem hn)))
  · -- dotu(x, y)
    rintro ⟨-, hx, hy⟩
    exact dotResult_dotu.trans (congrArg some (dotVal_eq_spec mem rfl (Bool.eq_false_iff.mpr hx) (Bool.eq_false_iff.mpr hy)))
  · -- real dot(x, y)
    intro g
    obtain ⟨hx, hy⟩ := hc (Bool.eq_false_iff.mpr g)
    exact dotResult_dot.trans (congrArg some (dotVal_eq_spec mem rfl hx hy))

end level1

/-! ## dispatch_legal (FULL, every build)

  Every call a dispatch chain issues is legal for the reference BLAS (no XERBLA), whether or not assertions are compiled in.
  For gemm, gemv, syrk and herk this is part of the certificates above (`GemmOK`, `GemvOK`, `SyrkOK`, `HerkOK` contain
  `illegal = none`); here the corollary for gemm and the statement for trsm (whose result is validated by the differential
  run only). -/

/-- every xGEMM call of `gemm_n` is legal -/
theorem gemm_dispatch_legal {nd : Bool} {alpha beta : R} {a b c : Mat} {t : Nat} {cl : Call R}
    (hs : GemmShapes a b c) (hc : c.cj = false) (h : gemm_n nd alpha beta a b c = .call t cl) :
    ∃ g, cl = .gemm g ∧ g.illegal = none := by
  obtain ⟨g, hg, hleg, _⟩ := gemm_n_certified hs hc h
  exact ⟨g, hg, hleg⟩

def trsmLegal : Call R → Prop
  | .trsm g => g.Legal
  | _ => True

macro "trsm_legal_leaf" s:ident f:ident d:ident : tactic => `(tactic| (
  intro hg
  cases $s:ident <;> cases $f:ident <;> cases $d:ident <;>
  (simp only [Mat.Lin, legalLd] at *
   simp (config := {decide := true}) only [trsmLegal, TrsmCall.Legal, isTrans, Side.char, Side.swap, Filling.char, Filling.flip, Diag.char, true_and, and_true, if_true, if_false, true_or, or_true, true_implies, reduceCtorEq, false_implies, ne_eq, not_true_eq_false, not_false_eq_true] at *
   omega)))

/-- **dispatch_legal for trsm (FULL).**  A is (at least) as large as the side of B it multiplies (trsm.hpp:82-83 assert it) and
    A and B have a unit stride (trsm.hpp:84-85): every xTRSM call is legal, in particular the leading dimension of a
    right-hand side with a single row or column (`legal_ld`). -/
theorem trsm_dispatch_legal {nd : Bool} {side : Side} {fill : Filling} {diag : Diag} {alpha : R} {a b : Mat} {t : Nat} {cl : Call R}
    (wa : a.WF) (wb : b.WF)
    (hl : side = .left → b.n0 ≤ a.n0 ∧ b.n0 ≤ a.n1) (hr : side = .right → b.n1 ≤ a.n0 ∧ b.n1 ≤ a.n1)
    (h : Gen.trsm nd side fill diag alpha a b = .call t cl) : trsmLegal cl := by
  -- for a call on the transpose of B
  have hl' := fun e => hr (Side.swap_eq_left e)
  have hr' := fun e => hl (Side.swap_eq_right e)
  apply trsm.elim h
  · exact fun ⟨_, _, _, _, _, a0, _⟩ => trsm_legal (b := b.tr) wa wb.tr hl' hr' rfl (.inl ⟨a0, rfl⟩)
  · exact fun ⟨_, _, _, _, _, _, a1, _⟩ => trsm_legal wa wb hl hr rfl (.inr ⟨a1, rfl⟩)
  · exact fun ⟨_, _, _, a0, _⟩ => trsm_legal (b := b.tr) wa wb.tr hl' hr' rfl (.inl ⟨a0, rfl⟩)
  · exact fun ⟨_, _, _, _, a1, _⟩ => trsm_legal wa wb hl hr rfl (.inr ⟨a1, rfl⟩)
  · exact fun ⟨_, _, _, _, a1, _⟩ => trsm_legal wa wb hl hr rfl (.inr ⟨a1, rfl⟩)
  · exact fun ⟨_, _, a0, _⟩ => trsm_legal wa wb hl hr rfl (.inl ⟨a0, rfl⟩)
  · exact fun ⟨_, _, _, _, a0, _⟩ => trsm_legal (b := b.tr) wa wb.tr hl' hr' rfl (.inl ⟨a0, rfl⟩)
  · exact fun ⟨_, _, _, _, _, a1, _⟩ => trsm_legal wa wb hl hr rfl (.inr ⟨a1, rfl⟩)
  · exact fun ⟨_, _, _, a1, _⟩ => trsm_legal (b := b.tr) wa wb.tr hl' hr' rfl (.inr ⟨a1, rfl⟩)

/-! ## rejected_is_inexpressible (partial)

  FULL statement: whenever a front end rejects (assertion or exception), no legal BLAS call computes the operation.  It is
  FALSE for the current code: the conjugated overloads of `gemm_n` throw "not BLAS-implemented" for combinations xGEMM can
  express (by the mirror-image call, or by a call on the conjugate-transposed C) and some they cannot; herk rejects conj(A)
  row-major into a row-major C, where xHERK would deliver the complex conjugate.  Over-rejection does not violate C13.
  What is proved: an assertion failure of the main overload means that some operand has no unit stride (or the sizes of B
  and C differ), and an operand with two non-unit strides and at least 2×2 elements cannot be addressed by ANY column-major
  operand descriptor (pointer, leading dimension, 'N' / 'T' / 'C'). -/

theorem gemm_nn_assert_is_nonunit {alpha beta : R} {a b c : Mat} {t : Nat}
    (h : gemm_n_nn false alpha beta a b c = .assertFail t) (hn : b.n1 = c.n1) :
    (a.s0 ≠ 1 ∧ a.s1 ≠ 1) ∨ (b.s0 ≠ 1 ∧ b.s1 ≠ 1) ∨ (c.s0 ≠ 1 ∧ c.s1 ≠ 1) := by
  refine gemm_n_nn.elimAssert h _ ?_ ?_ ?_ ?_ ?_
  · exact fun hh => absurd hn hh.2
  · exact fun hh => .inl (not_or.mp hh.2)
  · exact fun hh => .inr (.inl (not_or.mp hh.2))
  · exact fun hh => .inr (.inr (not_or.mp hh.2))
  · -- the chain has tried all eight choices of a unit stride for A, B and C: one of them has none
    intro hg
    grind

/-- no column-major operand (p, ld) read with 'N' (element (i,l) at p + i + l·ld) or with 'T'/'C' (at p + l + i·ld) addresses
    the elements base + i·sr + l·sc of a matrix with both strides ≥ 2 and at least 2 rows and 2 columns -/
theorem no_operand_addresses {base sr sc rows cols : Int} (hr : 2 ≤ rows) (hc : 2 ≤ cols) (h0 : 2 ≤ sr) (h1 : 2 ≤ sc) (p ld : Int) :
    ¬ (∀ i l : Int, 0 ≤ i → i < rows → 0 ≤ l → l < cols → p + i + l * ld = base + i * sr + l * sc) ∧
    ¬ (∀ i l : Int, 0 ≤ i → i < rows → 0 ≤ l → l < cols → p + l + i * ld = base + i * sr + l * sc) := by
  constructor
  · intro h
    have e00 := h 0 0 (by omega) (by omega) (by omega) (by omega)
    have e10 := h 1 0 (by omega) (by omega) (by omega) (by omega)
    simp at e00 e10
    omega
  · intro h
    have e00 := h 0 0 (by omega) (by omega) (by omega) (by omega)
    have e01 := h 0 1 (by omega) (by omega) (by omega) (by omega)
    simp at e00 e01
    omega

/-! ## Non-vacuity: the hypotheses of the main theorems are satisfiable and every kind of leaf is reached -/

/-- a 2×3 sub-block of a row-major array with 5 columns, times a 3×2 sub-block (4 columns), into a 2×2 sub-block (6 columns) -/
example : ∃ t cl, gemm_n (R := Int) false 1 2 ⟨0, 5, 1, 2, 3, false⟩ ⟨100, 4, 1, 3, 2, false⟩ ⟨200, 6, 1, 2, 2, false⟩ = .call t cl ∧
    GemmShapes ⟨0, 5, 1, 2, 3, false⟩ ⟨100, 4, 1, 3, 2, false⟩ ⟨200, 6, 1, 2, 2, false⟩ :=
  ⟨_, _, rfl, ⟨.of_and (by decide), .of_and (by decide), .of_and (by decide), rfl, rfl, rfl⟩⟩

/-- a single row times a matrix (the shape the removed `a_count == 1` special cases were for): a general leaf is taken -/
example : ∃ t cl, gemm_n (R := Int) true 1 0 ⟨0, 3, 1, 1, 3, false⟩ ⟨100, 1, 3, 3, 2, false⟩ ⟨200, 1, 1, 1, 2, false⟩ = .call t cl ∧
    GemmShapes ⟨0, 3, 1, 1, 3, false⟩ ⟨100, 1, 3, 3, 2, false⟩ ⟨200, 1, 1, 1, 2, false⟩ :=
  ⟨_, _, rfl, ⟨.of_and (by decide), .of_and (by decide), .of_and (by decide), rfl, rfl, rfl⟩⟩

/-- conjugated A (column-major) times B (row-major) into a row-major C: the one leaf of the (conj A) overload -/
example : ∃ t cl, gemm_n (R := GInt) false 1 ⟨2, 1⟩ ⟨0, 1, 4, 2, 3, true⟩ ⟨100, 4, 1, 3, 2, false⟩ ⟨200, 6, 1, 2, 2, false⟩ = .call t cl ∧
    GemmShapes ⟨0, 1, 4, 2, 3, true⟩ ⟨100, 4, 1, 3, 2, false⟩ ⟨200, 6, 1, 2, 2, false⟩ :=
  ⟨_, _, rfl, ⟨.of_and (by decide), .of_and (by decide), .of_and (by decide), rfl, rfl, rfl⟩⟩

/-- gemv on a padded row-major 2×3 matrix with strided vectors -/
example : ∃ t cl, gemv_n (R := Int) false 1 2 ⟨0, 5, 1, 2, 3, false⟩ ⟨100, 2, 3, false⟩ ⟨200, 3, 2, false⟩ = .call t cl ∧
    GemvHyp ⟨0, 5, 1, 2, 3, false⟩ ⟨100, 2, 3, false⟩ ⟨200, 3, 2, false⟩ :=
  ⟨_, _, rfl, ⟨by simp only [Mat.Lin]; decide, by decide, by decide, by decide, by decide, rfl, rfl, rfl, rfl⟩⟩

/-- gemv with a matrix without columns: the xSCAL leaf -/
example : gemv_n (R := Int) true 1 2 ⟨0, 1, 1, 2, 0, false⟩ ⟨100, 1, 0, false⟩ ⟨200, 1, 2, false⟩ = .call 2 (gemv_n.call_2 1 2 ⟨0, 1, 1, 2, 0, false⟩ ⟨100, 1, 0, false⟩ ⟨200, 1, 2, false⟩) := rfl

/-- syrk: row-major 3×2 A into a padded row-major 3×3 C -/
example : ∃ t cl, Gen.syrk (R := Int) false .lower 1 2 ⟨0, 4, 1, 3, 2, false⟩ ⟨200, 5, 1, 3, 3, false⟩ = .call t cl ∧
    SyrkHyp ⟨0, 4, 1, 3, 2, false⟩ ⟨200, 5, 1, 3, 3, false⟩ :=
  ⟨_, _, rfl, ⟨by simp only [Mat.Lin]; decide, by simp only [Mat.Lin]; decide, rfl, rfl, rfl, rfl, by decide, by decide⟩⟩

/-- herk: conj(A) column-major 3×2 into a row-major 3×3 C -/
example : ∃ t cl, herk_plain (R := GInt) true .upper 1 ⟨2, 0⟩ ⟨0, 1, 3, 3, 2, true⟩ ⟨200, 3, 1, 3, 3, false⟩ = .call t cl ∧
    HerkHyp ⟨0, 1, 3, 3, 2, true⟩ ⟨200, 3, 1, 3, 3, false⟩ :=
  ⟨_, _, rfl, ⟨by simp only [Mat.Lin]; decide, by simp only [Mat.Lin]; decide, rfl, rfl, rfl, by decide, by decide⟩⟩

/-- dot of empty float vectors delivers 0 -/
example : Front.dotResult 's' (dot_n.call_5 (R := Int) 0 ⟨0, 1, 0, false⟩ ⟨100, 1, 0, false⟩) (fun a => a) = some 0 := by decide

end Multi.C13
