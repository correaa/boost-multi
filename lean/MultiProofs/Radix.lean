/-
  MultiProofs.Radix — mixed-radix arithmetic of `extensions_t`: the row-major rank of an index tuple, how
  `next_canonical` / `prev_canonical` move it, and `from_linear` / `to_linear` on zero-based extensions.
-/
import MultiProofs.C02a

namespace Multi

/-- zero-based extensions with the given sizes -/
def zexts (szs : List Int) : List Ext := szs.map fun n => ⟨0, n⟩

def prodSizes : List Int → Int
  | [] => 1
  | n :: ns => n * prodSizes ns

def AllPos (szs : List Int) : Prop := ∀ n ∈ szs, 0 < n

instance (szs : List Int) : Decidable (AllPos szs) := inferInstanceAs (Decidable (∀ n ∈ szs, 0 < n))

theorem AllPos.tail {n : Int} {ns : List Int} (h : AllPos (n :: ns)) : AllPos ns :=
  fun x hx => h x (List.mem_cons_of_mem _ hx)
theorem AllPos.head {n : Int} {ns : List Int} (h : AllPos (n :: ns)) : 0 < n := h n (by simp)

theorem prodSizes_pos {szs : List Int} (h : AllPos szs) : 0 < prodSizes szs := by
  induction szs with
  | nil => simp [prodSizes]
  | cons n ns ih => exact Int.mul_pos h.head (ih h.tail)

theorem zexts_cons (n : Int) (ns : List Int) : zexts (n :: ns) = ⟨0, n⟩ :: zexts ns := rfl

theorem exts_numElements_eq (es : List Ext) : Exts.numElements es = nElems es := by
  induction es with
  | nil => rfl
  | cons e es ih => simp only [Exts.numElements, nElems, ih]

theorem nElems_zexts (szs : List Int) : nElems (zexts szs) = prodSizes szs := by
  induction szs with
  | nil => rfl
  | cons n ns ih => simp only [zexts_cons, nElems, prodSizes, Ext.size, ih, Int.sub_zero]

theorem numElements_zexts (szs : List Int) : Exts.numElements (zexts szs) = prodSizes szs := by
  rw [exts_numElements_eq, nElems_zexts]

/- The nonlinear facts about a leading digit of weight `M ≥ 0`, in the shapes `rowMajor` unfolds to: a smaller digit
   leaves room for a whole `M` (`succ_mul_le`, conversely `lt_of_mul_add_lt`), and stepping the digit changes the
   product by `M` (`digit_succ`, `digit_pred`).  With these as hypotheses `omega` does the rest, the products being
   atoms. -/

theorem succ_mul_le {q n M : Int} (h : q < n) (hM : 0 ≤ M) : q * M + M ≤ n * M := by
  have := Int.mul_le_mul_of_nonneg_right (show q + 1 ≤ n from h) hM
  rwa [Int.add_mul, Int.one_mul] at this

theorem digit_succ (i f M : Int) : (i + 1 - f) * M = (i - f) * M + M := by
  rw [show i + 1 - f = i - f + 1 by omega, Int.add_mul, Int.one_mul]

theorem digit_pred (i f M : Int) : (i - 1 - f) * M + M = (i - f) * M := by
  rw [show i - f = i - 1 - f + 1 by omega, Int.add_mul, Int.one_mul]

theorem lt_of_mul_add_lt {q n M r : Int} (h : q * M + r < n * M) (hr : 0 ≤ r) (hM : 0 ≤ M) : q < n := by
  refine Int.lt_of_not_ge fun hq => ?_
  have := Int.mul_le_mul_of_nonneg_right hq hM
  omega

theorem lead_lt_of_rank_lt {e : Ext} {es : List Ext} {q : Int} {r : List Int} (hr : InBox es r)
    (h : rowMajor (e :: es) (q :: r) < nElems (e :: es)) : q < e.last :=
  have b := rowMajor_bounds hr
  Int.lt_of_sub_lt_sub_right (lt_of_mul_add_lt h b.1 (Int.le_trans b.1 (Int.le_of_lt b.2)))

theorem nextCanonical_cons (e : Ext) (es : List Ext) (i : Int) (is : List Int) :
    Exts.nextCanonical (e :: es) (i :: is) =
      (if (if (Exts.nextCanonical es is).2 then i + 1 else i) == e.last
        then (e.first :: (Exts.nextCanonical es is).1, true)
        else ((if (Exts.nextCanonical es is).2 then i + 1 else i) :: (Exts.nextCanonical es is).1, false)) := by
  cases es with
  | nil =>
    simp only [Exts.nextCanonical, Ext.back, if_true]
    by_cases h : i = e.last - 1
    · simp [h]
    · have : ¬ (i + 1 = e.last) := by omega
      simp [h, this]
  | cons e' es' =>
    simp only [Exts.nextCanonical]

theorem nextCanonical_step {xs : List Ext} {ns : List Int} (h : InBox xs ns) :
    (rowMajor xs ns + 1 < nElems xs ∧ (Exts.nextCanonical xs ns).2 = false ∧
        InBox xs (Exts.nextCanonical xs ns).1 ∧
        rowMajor xs (Exts.nextCanonical xs ns).1 = rowMajor xs ns + 1) ∨
    (rowMajor xs ns + 1 = nElems xs ∧ (Exts.nextCanonical xs ns).2 = true ∧
        InBox xs (Exts.nextCanonical xs ns).1 ∧ rowMajor xs (Exts.nextCanonical xs ns).1 = 0) := by
  induction xs generalizing ns with
  | nil =>
    cases ns with
    | nil => right; simp [rowMajor, nElems, Exts.nextCanonical, InBox]
    | cons _ _ => exact h.elim
  | cons e es ih =>
    obtain ⟨i, is, rfl, h1, h2, h3⟩ := inBox_cons h
    obtain ⟨b1, b2⟩ := rowMajor_bounds h3
    have hM : 0 ≤ nElems es := Int.le_trans b1 (Int.le_of_lt b2)
    have m1 := succ_mul_le (Int.sub_lt_sub_right h2 e.first) hM
    rw [nextCanonical_cons]
    simp only [rowMajor, nElems, Ext.size]
    rcases ih h3 with ⟨c1, c2, c3, c4⟩ | ⟨c1, c2, c3, c4⟩
    · left
      simp only [c2, Bool.false_eq_true, if_false, beq_iff_eq, Int.ne_of_lt h2, rowMajor, InBox, c4]
      exact ⟨by omega, trivial, ⟨⟨h1, h2⟩, c3⟩, (Int.add_assoc _ _ _).symm⟩
    · simp only [c2, if_true, beq_iff_eq]
      have m3 := digit_succ i e.first (nElems es)
      by_cases hl : i + 1 = e.last
      · right
        simp only [hl, if_true, rowMajor, c4, InBox, Int.sub_self, Int.zero_mul, Int.add_zero, and_true, true_and]
        exact ⟨by rw [← hl]; omega, ⟨Int.le_refl _, Int.lt_of_le_of_lt h1 h2⟩, c3⟩
      · left
        simp only [hl, if_false, rowMajor, c4, InBox]
        have hlt : i + 1 < e.last := Int.lt_iff_le_and_ne.mpr ⟨h2, hl⟩
        have m2 := succ_mul_le (Int.sub_lt_sub_right hlt e.first) hM
        exact ⟨by omega, trivial, ⟨⟨Int.le_add_one h1, hlt⟩, c3⟩, by omega⟩

theorem prevCanonical_cons {e : Ext} (es : List Ext) {i : Int} (is : List Int) (hi : e.first ≤ i) :
    Exts.prevCanonical (e :: es) (i :: is) =
      (if (if (Exts.prevCanonical es is).2 then i - 1 else i) < e.first
        then (e.back :: (Exts.prevCanonical es is).1, true)
        else ((if (Exts.prevCanonical es is).2 then i - 1 else i) :: (Exts.prevCanonical es is).1, false)) := by
  cases es with
  | nil =>
    simp only [Exts.prevCanonical, if_true]
    by_cases h : i = e.first
    · subst h
      have : e.first - 1 < e.first := by omega
      simp [this]
    · have : ¬ (i - 1 < e.first) := by omega
      simp [h, this]
  | cons e' es' =>
    simp only [Exts.prevCanonical]

/-- the upper bound `u` of the leading index need not be the extension's, so that the tuple `end()` holds, one
    past the last in the leading dimension, is covered -/
theorem prevCanonical_step {e : Ext} {es : List Ext} {i : Int} {is : List Int} (u : Int)
    (h : InBox (⟨e.first, u⟩ :: es) (i :: is)) :
    (0 < rowMajor (e :: es) (i :: is) ∧ (Exts.prevCanonical (e :: es) (i :: is)).2 = false ∧
      InBox (⟨e.first, u⟩ :: es) (Exts.prevCanonical (e :: es) (i :: is)).1 ∧
      rowMajor (e :: es) (Exts.prevCanonical (e :: es) (i :: is)).1 = rowMajor (e :: es) (i :: is) - 1) ∨
    (rowMajor (e :: es) (i :: is) = 0 ∧ (Exts.prevCanonical (e :: es) (i :: is)).2 = true ∧
      (e.first < e.last → InBox (e :: es) (Exts.prevCanonical (e :: es) (i :: is)).1 ∧
        rowMajor (e :: es) (Exts.prevCanonical (e :: es) (i :: is)).1 = nElems (e :: es) - 1)) := by
  have hi : e.first ≤ i := h.1.1
  have hu : i < u := h.1.2
  have h3 : InBox es is := h.2
  clear h
  induction es generalizing e i is u with
  | nil =>
    cases is with
    | cons _ _ => exact h3.elim
    | nil =>
      by_cases h0 : i = e.first
      · right; simp [rowMajor, nElems, Exts.prevCanonical, InBox, Ext.back, Ext.size, h0]; omega
      · left; simp [rowMajor, nElems, Exts.prevCanonical, InBox, h0]; omega
  | cons e₁ es ih =>
    obtain ⟨j, js, rfl, h1, h2, h4⟩ := inBox_cons h3
    have tail := ih e₁.last h1 h2 h4
    have hM : 0 < nElems (e₁ :: es) := by have := rowMajor_bounds h3; omega
    have m0 := Int.mul_nonneg (show 0 ≤ i - e.first by omega) (Int.le_of_lt hM)
    have hr : ∀ t ts, rowMajor (e :: e₁ :: es) (t :: ts) = (t - e.first) * nElems (e₁ :: es) + rowMajor (e₁ :: es) ts :=
      fun _ _ => rfl
    rw [prevCanonical_cons _ _ hi]
    have hn : nElems (e :: e₁ :: es) = (e.last - e.first) * nElems (e₁ :: es) := rfl
    simp only [hr, hn]
    generalize Exts.prevCanonical (e₁ :: es) (j :: js) = res at tail ⊢
    generalize rowMajor (e₁ :: es) (j :: js) = r at tail ⊢
    generalize nElems (e₁ :: es) = M at tail hM m0 hr ⊢
    clear ih h3 h4
    rcases tail with ⟨c1, c2, c3, c4⟩ | ⟨c1, c2, c3⟩
    · left
      simp only [c2, Bool.false_eq_true, if_false, Int.not_lt.mpr hi, hr, InBox]
      exact ⟨Int.add_pos_of_nonneg_of_pos m0 c1, trivial, ⟨⟨hi, hu⟩, c3⟩, by rw [c4, Int.add_sub_assoc]⟩
    · obtain ⟨c3, c4⟩ := c3 (Int.lt_of_le_of_lt h1 h2)
      simp only [c2, if_true]
      by_cases h0 : i = e.first
      · right
        subst h0
        simp only [Int.sub_one_lt_of_le (Int.le_refl e.first), if_true, hr, InBox, Ext.back]
        refine ⟨by rw [c1, Int.sub_self, Int.zero_mul, Int.add_zero], trivial, fun hl =>
          ⟨⟨⟨Int.le_sub_one_of_lt hl, Int.sub_one_lt_of_le (Int.le_refl _)⟩, c3⟩, ?_⟩⟩
        have := digit_pred e.last e.first M
        omega
      · left
        have hlt : e.first < i := Int.lt_iff_le_and_ne.mpr ⟨hi, Ne.symm h0⟩
        simp only [Int.not_lt.mpr (Int.le_sub_one_of_lt hlt), if_false, hr, InBox]
        refine ⟨by rw [c1, Int.add_zero]; exact Int.mul_pos (Int.sub_pos.mpr hlt) hM, trivial,
          ⟨⟨Int.le_sub_one_of_lt hlt, Int.lt_of_le_of_lt (Int.sub_le_self i (by decide)) hu⟩, c3⟩, ?_⟩
        have := digit_pred i e.first M
        omega

theorem fromLinear_isSome_of_ne (xs : List Ext) (n : Int) (h : nElems xs ≠ 0) : ∃ r, Exts.fromLinear xs n = some r := by
  induction xs generalizing n with
  | nil => exact ⟨[], rfl⟩
  | cons e es ih =>
    cases es with
    | nil => exact ⟨[n], rfl⟩
    | cons e' es' =>
      have hsub : nElems (e' :: es') ≠ 0 := (Int.mul_ne_zero_iff.mp h).2
      obtain ⟨r, hr⟩ := ih (n.tmod (nElems (e' :: es'))) hsub
      exact ⟨n.tdiv (nElems (e' :: es')) :: r, by simp only [Exts.fromLinear, exts_numElements_eq, hsub, if_false, hr, Option.map_some]⟩

/-- `to_linear (from_linear k) = k`, for every `k`: the leading digit is not reduced -/
theorem toLinear_fromLinear {xs : List Ext} (hne : xs ≠ []) {k : Int} {ns : List Int}
    (h : Exts.fromLinear xs k = some ns) : Exts.toLinear xs ns = k := by
  induction xs generalizing k ns with
  | nil => exact absurd rfl hne
  | cons e es ih =>
    cases es with
    | nil => simp only [Exts.fromLinear, Option.some.injEq] at h; subst h; rfl
    | cons e' es' =>
      simp only [Exts.fromLinear] at h
      split at h
      · cases h
      · obtain ⟨r, hr, rfl⟩ := Option.map_eq_some_iff.mp h
        simp only [Exts.toLinear, ih (by simp) hr]
        exact Int.tdiv_mul_add_tmod _ _

/-- no upper bound on `k`, nor on the leading digit: for `k = Π sizes` this is the tuple of `end()` -/
theorem fromLinear_lead (n : Int) {ms : List Int} (hp : AllPos ms) {k : Int} (h0 : 0 ≤ k) :
    ∃ q r, Exts.fromLinear (zexts (n :: ms)) k = some (q :: r) ∧ 0 ≤ q ∧ InBox (zexts ms) r ∧
      rowMajor (zexts (n :: ms)) (q :: r) = k := by
  induction ms generalizing n k with
  | nil => exact ⟨k, [], rfl, h0, trivial, by simp [zexts, rowMajor, nElems]⟩
  | cons m ms ih =>
    have hM := prodSizes_pos hp
    have hM0 : prodSizes (m :: ms) ≠ 0 := by omega
    obtain ⟨q, r, e1, q0, hr, e2⟩ := ih m hp.tail (Int.emod_nonneg k hM0)
    have hqm : q < m :=
      lead_lt_of_rank_lt (e := ⟨0, m⟩) hr (by rw [← zexts_cons, e2, nElems_zexts]; exact Int.emod_lt_of_pos k hM)
    refine ⟨k / prodSizes (m :: ms), q :: r, ?_, Int.ediv_nonneg h0 (Int.le_of_lt hM), ⟨⟨q0, hqm⟩, hr⟩, ?_⟩
    · simp only [zexts_cons, Exts.fromLinear, exts_numElements_eq]
      simp only [← zexts_cons, hM0, if_false, nElems_zexts, Int.tdiv_eq_ediv_of_nonneg h0,
        Int.tmod_eq_emod_of_nonneg h0, e1, Option.map_some]
    · rw [zexts_cons, rowMajor, e2, nElems_zexts, Int.sub_zero, Int.mul_comm]
      exact Int.mul_ediv_add_emod k _

theorem fromLinear_spec {szs : List Int} (hp : AllPos szs) {k : Int} (h0 : 0 ≤ k) (h1 : k < prodSizes szs) :
    ∃ ps, Exts.fromLinear (zexts szs) k = some ps ∧ InBox (zexts szs) ps ∧ rowMajor (zexts szs) ps = k := by
  cases szs with
  | nil => exact ⟨[], rfl, trivial, by simp only [prodSizes] at h1; simp only [zexts, List.map_nil, rowMajor]; omega⟩
  | cons n ms =>
    obtain ⟨q, r, e1, q0, hr, e2⟩ := fromLinear_lead n hp.tail h0
    exact ⟨q :: r, e1, ⟨⟨q0, lead_lt_of_rank_lt (e := ⟨0, n⟩) hr (by rw [← zexts_cons, e2, nElems_zexts]; exact h1)⟩, hr⟩, e2⟩

theorem fromLinear_rowMajor {szs ps : List Int} (hp : AllPos szs) (h : InBox (zexts szs) ps) :
    Exts.fromLinear (zexts szs) (rowMajor (zexts szs) ps) = some ps := by
  obtain ⟨b0, b1⟩ := rowMajor_bounds h
  obtain ⟨qs, e1, e2, e3⟩ := fromLinear_spec hp b0 (by rw [← nElems_zexts]; exact b1)
  rw [e1, rowMajor_inj e2 h e3]

end Multi
