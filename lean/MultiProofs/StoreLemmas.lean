/-
  MultiProofs.StoreLemmas — helper lemmas for C05 / C07 / C03: the loops of MultiModel.Store expressed over the
  lists of addresses they visit, list-level facts about sequential copy / transfer (swap, move) / store / compare,
  and the addresses of whole arrays.
-/
import MultiProofs.StoreSpec
import MultiProofs.ElemOrder

namespace Multi

variable {α : Type}

theorem Mem.write_same (m : Mem α) (a : Int) (x : α) : (m.write a x) a = x := by simp [Mem.write]
theorem Mem.write_other (m : Mem α) {a b : Int} (x : α) (h : b ≠ a) : (m.write a x) b = m b := by simp [Mem.write, h]
theorem Mem.write_self (m : Mem α) (a : Int) : m.write a (m a) = m :=
  funext fun _ => ite_eq_right_iff.2 fun h => h ▸ rfl

theorem ElemIt.addrs_succ_some {n : Nat} {it : ElemIt} {as : List Int} (h : ElemIt.addrs (n + 1) it = some as) :
    ∃ it' rest, it.inc = some it' ∧ ElemIt.addrs n it' = some rest ∧ as = it.current :: rest := by
  simp only [ElemIt.addrs, Option.bind_eq_bind, Option.bind_eq_some_iff, Option.pure_def, Option.some.injEq] at h
  obtain ⟨it', hi, rest, hr, e⟩ := h
  exact ⟨it', rest, hi, hr, e.symm⟩

theorem not_mem_map {ι β : Type} {L : List ι} {f : ι → β} {b : β} (h : ∀ j ∈ L, f j ≠ b) : b ∉ L.map f :=
  fun hc => let ⟨j, hj, e⟩ := List.mem_map.mp hc; h j hj e

theorem not_mem_fst_zip {β γ : Type} {as : List β} {bs : List γ} {a : β} (h : a ∉ as) : a ∉ (as.zip bs).map Prod.fst :=
  fun hc => let ⟨_, hp, e⟩ := List.mem_map.mp hc; h (e ▸ (List.of_mem_zip hp).1)

theorem not_mem_snd_zip {β γ : Type} {as : List β} {bs : List γ} {b : γ} (h : b ∉ bs) : b ∉ (as.zip bs).map Prod.snd :=
  fun hc => let ⟨_, hp, e⟩ := List.mem_map.mp hc; h (e ▸ (List.of_mem_zip hp).2)

theorem nodup_map_of_inj_on {ι β : Type} (L : List ι) (f : ι → β) (hnd : L.Nodup)
    (hinj : ∀ i ∈ L, ∀ j ∈ L, f i = f j → i = j) : (L.map f).Nodup :=
  List.pairwise_map.mpr (hnd.imp_of_mem fun hi hj hne e => hne (hinj _ hi _ hj e))

theorem inj_on_of_nodup_map {ι β : Type} {L : List ι} {f : ι → β} (h : (L.map f).Nodup) :
    ∀ i ∈ L, ∀ j ∈ L, f i = f j → i = j := by
  induction L with
  | nil => intro i hi; cases hi
  | cons a L ih =>
    obtain ⟨ha, hL⟩ := List.nodup_cons.mp h
    intro i hi j hj e
    rcases List.mem_cons.mp hi with rfl | hi' <;> rcases List.mem_cons.mp hj with rfl | hj'
    · rfl
    · exact absurd (List.mem_map.mpr ⟨j, hj', e.symm⟩) ha
    · exact absurd (List.mem_map.mpr ⟨i, hi', e⟩) ha
    · exact ih hL i hi' j hj' e

/-- `*d = *s` over a list of (destination, source) address pairs, front to back -/
def copyList : List (Int × Int) → Mem α → Mem α
  | [], m => m
  | p :: ps, m => copyList ps (m.write p.1 (m p.2))

theorem copyN_eq (n : Nat) (s d : ElemIt) (m : Mem α) (sA dA : List Int)
    (hs : ElemIt.addrs n s = some sA) (hd : ElemIt.addrs n d = some dA) :
    ElemIt.copyN n s d m = some (copyList (dA.zip sA) m) := by
  induction n generalizing s d m sA dA with
  | zero => cases hs; cases hd; rfl
  | succ n ih =>
    obtain ⟨s', sr, hs1, hs2, rfl⟩ := ElemIt.addrs_succ_some hs
    obtain ⟨d', dr, hd1, hd2, rfl⟩ := ElemIt.addrs_succ_some hd
    simp only [ElemIt.copyN, hs1, hd1, Option.bind_eq_bind, Option.bind_some, List.zip_cons_cons, copyList]
    exact ih s' d' _ sr dr hs2 hd2

theorem copyList_not_mem (ps : List (Int × Int)) (m : Mem α) (a : Int) (h : a ∉ ps.map Prod.fst) :
    copyList ps m a = m a := by
  induction ps generalizing m with
  | nil => rfl
  | cons p ps ih =>
    simp only [List.map_cons, List.mem_cons, not_or] at h
    rw [copyList, ih _ h.2, Mem.write_other _ _ h.1]

theorem copyList_self (ps : List (Int × Int)) (m : Mem α) (h : ∀ p ∈ ps, p.1 = p.2) : copyList ps m = m := by
  induction ps generalizing m with
  | nil => rfl
  | cons p ps ih =>
    rw [copyList, h p (by simp), Mem.write_self]
    exact ih m (fun q hq => h q (List.mem_cons_of_mem _ hq))

theorem copyList_spec {ι : Type} (L : List ι) (f g : ι → Int) (m : Mem α) (hnd : L.Nodup)
    (hinj : ∀ i ∈ L, ∀ j ∈ L, f i = f j → i = j) (hdis : ∀ i ∈ L, ∀ j ∈ L, f i ≠ g j) :
    (∀ i ∈ L, copyList ((L.map f).zip (L.map g)) m (f i) = m (g i)) ∧
    (∀ a, a ∉ L.map f → copyList ((L.map f).zip (L.map g)) m a = m a) := by
  refine ⟨?_, fun a ha => copyList_not_mem _ m a (not_mem_fst_zip ha)⟩
  induction L generalizing m with
  | nil => intro i hi; cases hi
  | cons i0 L ih =>
    intro i hi
    have hnd' := List.nodup_cons.mp hnd
    have h0 : i0 ∈ i0 :: L := List.mem_cons_self
    have hL : ∀ {j}, j ∈ L → j ∈ i0 :: L := List.mem_cons_of_mem _
    simp only [List.map_cons, List.zip_cons_cons, copyList]
    rcases List.mem_cons.mp hi with rfl | hi'
    · -- no later step writes `f i`
      rw [copyList_not_mem _ _ _ (not_mem_fst_zip (not_mem_map fun j hj hc => hnd'.1 (hinj j (hL hj) i h0 hc ▸ hj))),
        Mem.write_same]
    · -- the first step does not write `g i`
      rw [ih _ hnd'.2 (fun i hi j hj => hinj i (hL hi) j (hL hj)) (fun i hi j hj => hdis i (hL hi) j (hL hj)) i hi',
        Mem.write_other _ _ (hdis i0 h0 i hi).symm]

/-- `*d = *s`, after which the source cell holds `left` of what the destination held: `std::swap_ranges` leaves the
    destination's old value in the source (`left = id`), a move assignment the moved-from state (`left = fun _ => moved`) -/
def transferList (left : α → α) : List (Int × Int) → Mem α → Mem α
  | [], m => m
  | p :: ps, m => transferList left ps ((m.write p.1 (m p.2)).write p.2 (left (m p.1)))

def swapList : List (Int × Int) → Mem α → Mem α
  | [], m => m
  | p :: ps, m => swapList ps ((m.write p.1 (m p.2)).write p.2 (m p.1))

theorem swapList_eq_transferList (ps : List (Int × Int)) (m : Mem α) : swapList ps m = transferList id ps m := by
  induction ps generalizing m with
  | nil => rfl
  | cons p ps ih => exact ih _

theorem swapN_eq (n : Nat) (a b : ElemIt) (m : Mem α) (aA bA : List Int)
    (ha : ElemIt.addrs n a = some aA) (hb : ElemIt.addrs n b = some bA) :
    ElemIt.swapN n a b m = some (swapList (aA.zip bA) m) := by
  induction n generalizing a b m aA bA with
  | zero => cases ha; cases hb; rfl
  | succ n ih =>
    obtain ⟨a', ar, ha1, ha2, rfl⟩ := ElemIt.addrs_succ_some ha
    obtain ⟨b', br, hb1, hb2, rfl⟩ := ElemIt.addrs_succ_some hb
    simp only [ElemIt.swapN, ha1, hb1, Option.bind_eq_bind, Option.bind_some, List.zip_cons_cons, swapList]
    exact ih a' b' _ ar br ha2 hb2

theorem moveN_eq (moved : α) (n : Nat) (s d : ElemIt) (m : Mem α) (sA dA : List Int)
    (hs : ElemIt.addrs n s = some sA) (hd : ElemIt.addrs n d = some dA) :
    ElemIt.moveN moved n s d m = some (transferList (fun _ => moved) (dA.zip sA) m) := by
  induction n generalizing s d m sA dA with
  | zero => cases hs; cases hd; rfl
  | succ n ih =>
    obtain ⟨s', sr, hs1, hs2, rfl⟩ := ElemIt.addrs_succ_some hs
    obtain ⟨d', dr, hd1, hd2, rfl⟩ := ElemIt.addrs_succ_some hd
    simp only [ElemIt.moveN, hs1, hd1, Option.bind_eq_bind, Option.bind_some, List.zip_cons_cons, transferList]
    exact ih s' d' _ sr dr hs2 hd2

theorem transferList_not_mem (left : α → α) (ps : List (Int × Int)) (m : Mem α) (a : Int) (h1 : a ∉ ps.map Prod.fst)
    (h2 : a ∉ ps.map Prod.snd) : transferList left ps m a = m a := by
  induction ps generalizing m with
  | nil => rfl
  | cons p ps ih =>
    simp only [List.map_cons, List.mem_cons, not_or] at h1 h2
    rw [transferList, ih _ h1.2 h2.2, Mem.write_other _ _ h2.1, Mem.write_other _ _ h1.1]

theorem transferList_spec {ι : Type} (left : α → α) (L : List ι) (f g : ι → Int) (m : Mem α) (hnd : L.Nodup)
    (hf : ∀ i ∈ L, ∀ j ∈ L, f i = f j → i = j) (hg : ∀ i ∈ L, ∀ j ∈ L, g i = g j → i = j)
    (hdis : ∀ i ∈ L, ∀ j ∈ L, f i ≠ g j) :
    (∀ i ∈ L, transferList left ((L.map f).zip (L.map g)) m (f i) = m (g i) ∧
              transferList left ((L.map f).zip (L.map g)) m (g i) = left (m (f i))) ∧
    (∀ a, a ∉ L.map f → a ∉ L.map g → transferList left ((L.map f).zip (L.map g)) m a = m a) := by
  refine ⟨?_, fun a ha hb => transferList_not_mem left _ m a (not_mem_fst_zip ha) (not_mem_snd_zip hb)⟩
  induction L generalizing m with
  | nil => intro i hi; cases hi
  | cons i0 L ih =>
    intro i hi
    have hnd' := List.nodup_cons.mp hnd
    have h0 : i0 ∈ i0 :: L := List.mem_cons_self
    have hL : ∀ {j}, j ∈ L → j ∈ i0 :: L := List.mem_cons_of_mem _
    have nf : ∀ j ∈ L, f j ≠ f i0 := fun j hj hc => hnd'.1 (hf j (hL hj) i0 h0 hc ▸ hj)
    have ng : ∀ j ∈ L, g j ≠ g i0 := fun j hj hc => hnd'.1 (hg j (hL hj) i0 h0 hc ▸ hj)
    simp only [List.map_cons, List.zip_cons_cons, transferList]
    rcases List.mem_cons.mp hi with rfl | hi'
    · -- the later steps touch neither `f i` nor `g i`
      rw [transferList_not_mem _ _ _ _ (not_mem_fst_zip (not_mem_map nf))
          (not_mem_snd_zip (not_mem_map fun j hj => (hdis i h0 j (hL hj)).symm)),
        transferList_not_mem _ _ _ _ (not_mem_fst_zip (not_mem_map fun j hj => hdis j (hL hj) i h0))
          (not_mem_snd_zip (not_mem_map ng)),
        Mem.write_other _ _ (hdis i h0 i h0), Mem.write_same, Mem.write_same]
      exact ⟨rfl, rfl⟩
    · -- the first step touches neither `f i` nor `g i`
      obtain ⟨e1, e2⟩ := ih _ hnd'.2 (fun i hi j hj => hf i (hL hi) j (hL hj)) (fun i hi j hj => hg i (hL hi) j (hL hj))
        (fun i hi j hj => hdis i (hL hi) j (hL hj)) i hi'
      rw [e1, e2, Mem.write_other _ _ (ng i hi'), Mem.write_other _ _ (hdis i0 h0 i hi).symm,
        Mem.write_other _ _ (hdis i hi i0 h0), Mem.write_other _ _ (nf i hi')]
      exact ⟨rfl, rfl⟩

theorem swapList_not_mem (ps : List (Int × Int)) (m : Mem α) (a : Int) (h1 : a ∉ ps.map Prod.fst)
    (h2 : a ∉ ps.map Prod.snd) : swapList ps m a = m a :=
  swapList_eq_transferList ps m ▸ transferList_not_mem id ps m a h1 h2

theorem swapList_spec {ι : Type} (L : List ι) (f g : ι → Int) (m : Mem α) (hnd : L.Nodup)
    (hf : ∀ i ∈ L, ∀ j ∈ L, f i = f j → i = j) (hg : ∀ i ∈ L, ∀ j ∈ L, g i = g j → i = j)
    (hdis : ∀ i ∈ L, ∀ j ∈ L, f i ≠ g j) :
    (∀ i ∈ L, swapList ((L.map f).zip (L.map g)) m (f i) = m (g i) ∧
              swapList ((L.map f).zip (L.map g)) m (g i) = m (f i)) ∧
    (∀ a, a ∉ L.map f → a ∉ L.map g → swapList ((L.map f).zip (L.map g)) m a = m a) :=
  swapList_eq_transferList _ m ▸ transferList_spec id L f g m hnd hf hg hdis

/-- `*d = x` over a list of (address, value) pairs, front to back -/
def writeList : List (Int × α) → Mem α → Mem α
  | [], m => m
  | p :: ps, m => writeList ps (m.write p.1 p.2)

theorem writeList_not_mem (ps : List (Int × α)) (m : Mem α) (a : Int) (h : a ∉ ps.map Prod.fst) :
    writeList ps m a = m a := by
  induction ps generalizing m with
  | nil => rfl
  | cons p ps ih =>
    simp only [List.map_cons, List.mem_cons, not_or] at h
    rw [writeList, ih _ h.2, Mem.write_other _ _ h.1]

theorem writeList_zip_not_mem (as : List Int) (vals : List α) (m : Mem α) (a : Int) (h : a ∉ as) :
    writeList (as.zip vals) m a = m a :=
  writeList_not_mem _ m a (not_mem_fst_zip h)

theorem writeList_zip_getElem (as : List Int) (vals : List α) (m : Mem α) (hnd : as.Nodup)
    (hlen : as.length = vals.length) (k : Nat) (hk : k < vals.length) :
    writeList (as.zip vals) m (as[k]'(hlen ▸ hk)) = vals[k] := by
  induction as generalizing vals m k with
  | nil => exact absurd (hlen ▸ hk) (Nat.not_lt_zero _)
  | cons a as ih =>
    cases vals with
    | nil => cases hlen
    | cons v vs =>
      obtain ⟨ha, hnd'⟩ := List.nodup_cons.mp hnd
      cases k with
      | zero => exact (writeList_zip_not_mem as vs _ a ha).trans (Mem.write_same m a v)
      | succ k => exact ih vs _ hnd' (Nat.succ.inj hlen) k (Nat.lt_of_succ_lt_succ hk)

theorem writeList_fill (as : List Int) (x : α) (m : Mem α) (a : Int) :
    writeList (as.map (fun b => (b, x))) m a = if a ∈ as then x else m a := by
  induction as generalizing m with
  | nil => rfl
  | cons b as ih =>
    rw [List.map_cons, writeList, ih]
    by_cases h : a ∈ as
    · simp [h]
    · simp [h, Mem.write]

theorem ElemIt.storeN_eq (vals : List α) (d : ElemIt) (m : Mem α) (dA : List Int)
    (hd : ElemIt.addrs vals.length d = some dA) :
    ElemIt.storeN vals d m = some (writeList (dA.zip vals) m) := by
  induction vals generalizing d m dA with
  | nil => cases hd; rfl
  | cons x xs ih =>
    obtain ⟨d', dr, hd1, hd2, rfl⟩ := ElemIt.addrs_succ_some hd
    simp only [ElemIt.storeN, hd1, Option.bind_eq_bind, Option.bind_some, List.zip_cons_cons, writeList]
    exact ih d' _ dr hd2

/-- the addresses an `array_iterator` visits in `n` steps of `++` (1-D: element addresses; D>1: row bases) -/
def ArrIt.addrs : Nat → ArrIt → List Int
  | 0, _ => []
  | n + 1, it => it.deref.base :: ArrIt.addrs n it.inc

theorem map_range_succ_stride {β : Type} (X : Int → β) (p s : Int) (n : Nat) :
    (List.range (n + 1)).map (fun (k : Nat) => X (p + Int.ofNat k * s)) =
      X p :: (List.range n).map (fun (k : Nat) => X (p + s + Int.ofNat k * s)) := by
  rw [List.range_succ_eq_map, List.map_cons, List.map_map]
  congr 1
  · rw [show Int.ofNat 0 = 0 from rfl, Int.zero_mul, Int.add_zero]
  · refine List.map_congr_left fun k _ => congrArg X ?_
    show p + Int.ofNat (k + 1) * s = p + s + Int.ofNat k * s
    rw [show Int.ofNat (k + 1) = Int.ofNat k + 1 from rfl, Int.add_mul, Int.one_mul, Int.add_comm _ s, Int.add_assoc]

theorem ArrIt.addrs_eq (n : Nat) (it : ArrIt) :
    ArrIt.addrs n it = (List.range n).map (fun (k : Nat) => it.ptr + Int.ofNat k * it.stride) := by
  induction n generalizing it with
  | zero => rfl
  | succ n ih => rw [ArrIt.addrs, ih, map_range_succ_stride (fun a => a)]; rfl

/-- `operator[]` on a well-formed dimension: the `k`-th index is `k` strides from the base, whatever the first index -/
theorem Dim.WF.row_off {d : Dim} (hd : d.WF) {k : Nat} (hk : k ∈ List.range d.ext.size.toNat) :
    (d.ext.first + Int.ofNat k) * d.stride - d.offset = Int.ofNat k * d.stride := by
  have hne : d.nelems ≠ 0 := fun h0 => by
    rw [Dim.ext_of_nelems_zero h0] at hk
    exact absurd hk List.not_mem_nil
  rw [hd.offset_eq hne, Int.add_mul, Int.add_comm, Int.add_sub_cancel]

theorem boxIndices_one (e : Ext) :
    boxIndices [e] = (List.range e.size.toNat).map (fun (k : Nat) => [e.first + Int.ofNat k]) := by
  simp only [boxIndices, List.map_cons, List.map_nil]
  generalize e.size.toNat = n
  induction n with
  | zero => rfl
  | succ n ih => rw [List.range_succ, List.flatMap_append, List.map_append, ih]; simp

theorem View.arr_addrs_one (v : View) (d : Dim) (hv : v.lay = [d]) (hd : d.WF) :
    ArrIt.addrs v.size.toNat v.begin' = (boxIndices v.exts).map v.addr := by
  have hsz : v.size = d.ext.size := by simp only [View.size, hv]; exact hd.size_eq
  rw [ArrIt.addrs_eq, hsz]
  simp only [View.exts, Layout.exts, hv, List.map_cons, List.map_nil, boxIndices_one, List.map_map, View.begin']
  apply List.map_congr_left
  intro k hk
  simp only [Function.comp, addr_eq, hv, Layout.off, hd.row_off hk, Int.add_zero]

theorem ArrIt.fillN_eq (x : α) (n : Nat) (it : ArrIt) (m : Mem α) :
    ArrIt.fillN x n it m = writeList ((ArrIt.addrs n it).map (fun a => (a, x))) m := by
  induction n generalizing it m with
  | zero => rfl
  | succ n ih => simp only [ArrIt.fillN, ArrIt.addrs, List.map_cons, writeList, ih]

theorem ArrIt.storeN_eq (vals : List α) (it : ArrIt) (m : Mem α) :
    ArrIt.storeN vals it m = writeList ((ArrIt.addrs vals.length it).zip vals) m := by
  induction vals generalizing it m with
  | nil => rfl
  | cons x xs ih => simp only [ArrIt.storeN, List.length_cons, ArrIt.addrs, List.zip_cons_cons, writeList, ih]

theorem readN_eq (m : Mem α) (n : Nat) (it : ElemIt) (as : List Int) (h : ElemIt.addrs n it = some as) :
    ElemIt.readN m n it = some (as.map m) := by
  induction n generalizing it as with
  | zero => cases h; rfl
  | succ n ih =>
    obtain ⟨it', r, h1, h2, rfl⟩ := ElemIt.addrs_succ_some h
    simp only [ElemIt.readN, h1, Option.bind_eq_bind, Option.bind_some, ih it' r h2, Option.pure_def, List.map_cons]

theorem equalN_eq [DecidableEq α] (m : Mem α) (n : Nat) (a b : ElemIt) (aA bA : List Int)
    (ha : ElemIt.addrs n a = some aA) (hb : ElemIt.addrs n b = some bA) :
    ElemIt.equalN m n a b = some (decide (∀ p ∈ aA.zip bA, m p.1 = m p.2)) := by
  induction n generalizing a b aA bA with
  | zero => cases ha; cases hb; simp [ElemIt.equalN]
  | succ n ih =>
    obtain ⟨a', ar, ha1, ha2, rfl⟩ := ElemIt.addrs_succ_some ha
    obtain ⟨b', br, hb1, hb2, rfl⟩ := ElemIt.addrs_succ_some hb
    simp only [ElemIt.equalN, List.zip_cons_cons, List.forall_mem_cons, ha1, hb1, Option.bind_eq_bind, Option.bind_some,
      ih a' b' ar br ha2 hb2]
    by_cases h : m a.current = m b.current
    · simp only [h, if_true, true_and]
    · simp only [h, if_false, false_and, decide_false]

theorem ElemRange.ne_eq_not_eq [DecidableEq α] (self other : ElemRange) (m : Mem α) :
    self.ne other m = (self.eq other m).map (fun r => !r) := by
  unfold ElemRange.ne ElemRange.eq
  split
  · rfl
  · simp only [Option.bind_eq_bind, Option.map_bind, Function.comp_def]

theorem forall_pos_succ {n : Nat} {P : Int → Prop} :
    (∀ k : Int, 0 ≤ k → k < (n + 1 : Nat) → P k) ↔ P 0 ∧ ∀ k : Int, 0 ≤ k → k < n → P (1 + k) := by
  constructor
  · exact fun h => ⟨h 0 (Int.le_refl 0) (Int.lt_add_one_iff.2 (Int.natCast_nonneg n)),
      fun k h0 h1 => h (1 + k) (Int.add_nonneg (by decide) h0) (Int.add_comm 1 k ▸ Int.add_lt_add_right h1 1)⟩
  · rintro ⟨h0, hs⟩ k k0 k1
    rcases Int.lt_or_eq_of_le k0 with hk | rfl
    · have := hs (k - 1) (Int.sub_nonneg_of_le hk) (Int.sub_right_lt_of_lt_add k1)
      rwa [Int.add_comm, Int.sub_add_cancel] at this
    · exact h0

theorem copyFlat_spec (n : Nat) (s d : Int) (m : Mem α) (hdis : d + n ≤ s ∨ s + n ≤ d) :
    (∀ k : Int, 0 ≤ k → k < n → copyFlat n s d m (d + k) = m (s + k)) ∧
    (∀ a : Int, (∀ k : Int, 0 ≤ k → k < n → a ≠ d + k) → copyFlat n s d m a = m a) := by
  induction n generalizing s d m with
  | zero => exact ⟨fun k h0 h1 => absurd h1 (Int.not_lt.2 h0), fun a _ => rfl⟩
  | succ n ih =>
    obtain ⟨i1, i2⟩ := ih (s + 1) (d + 1) (m.write d (m s)) (by omega)
    refine ⟨forall_pos_succ.2 ⟨?_, fun k h0 h1 => ?_⟩, fun a ha => ?_⟩
    · rw [Int.add_zero, Int.add_zero, copyFlat, i2 d (fun k h0 _ => by omega), Mem.write_same]
    · rw [copyFlat, ← Int.add_assoc, ← Int.add_assoc, i1 k h0 h1, Mem.write_other]
      omega
    · obtain ⟨ha0, has⟩ := forall_pos_succ.1 ha
      rw [copyFlat, i2 a (fun k h0 h1 => Int.add_assoc d 1 k ▸ has k h0 h1), Mem.write_other _ _ (Int.add_zero d ▸ ha0)]

theorem equalFlat_iff [DecidableEq α] (m : Mem α) (n : Nat) (a b : Int) :
    equalFlat m n a b = true ↔ ∀ k : Int, 0 ≤ k → k < n → m (a + k) = m (b + k) := by
  induction n generalizing a b with
  | zero => exact ⟨fun _ k h0 h1 => absurd h1 (Int.not_lt.2 h0), fun _ => rfl⟩
  | succ n ih =>
    rw [forall_pos_succ, equalFlat, Int.add_zero, Int.add_zero]
    by_cases h : m a = m b
    · simp only [h, if_true, ih, true_and, Int.add_assoc]
    · simp only [h, if_false, Bool.false_eq_true, false_and]

/-- two whole arrays of the same extensions, element by element over the box, are their storage ranges position by
    position: the index tuples of the box and the positions `[0, nElems es)` correspond through `rowMajor` -/
theorem root_forall (b c : Int) (es : List Ext) (hes : ∀ e ∈ es, e.first ≤ e.last) (P : Int → Int → Prop) :
    (∀ idx, InBox (View.mk b (Layout.ofExts es)).exts idx →
      P ((View.mk b (Layout.ofExts es)).addr idx) ((View.mk c (Layout.ofExts es)).addr idx)) ↔
    ∀ k : Int, 0 ≤ k → k < nElems es → P (b + k) (c + k) := by
  obtain ⟨_, rex, _, raddr⟩ := C01.root_denotes es hes
  have haddr : ∀ (x : Int) {idx}, InBox (collapse es) idx →
      (View.mk x (Layout.ofExts es)).addr idx = x + rowMajor es idx :=
    fun x idx h => (addr_eq _ idx).trans (congrArg (x + ·) (raddr idx h).1)
  constructor
  · intro H k k0 k1
    have hpos : 0 < nElems es := Int.lt_of_le_of_lt k0 k1
    have : k ∈ (boxIndices es).map (rowMajor es) := by
      rw [boxIndices_rowMajor es hes, mem_seqFrom, Int.zero_add, Int.toNat_of_nonneg (Int.le_of_lt hpos)]
      exact ⟨k0, k1⟩
    obtain ⟨idx, hidx, rfl⟩ := List.mem_map.mp this
    have hin : InBox (collapse es) idx := by
      rw [collapse_of_ne_zero es (Int.ne_of_gt hpos)]
      exact (mem_boxIndices es idx).mp hidx
    have := H idx (show InBox (Layout.ofExts es).exts idx from rex ▸ hin)
    rwa [haddr b hin, haddr c hin] at this
  · intro H idx hin
    have hin' : InBox (collapse es) idx := rex ▸ (hin : InBox (Layout.ofExts es).exts idx)
    rw [haddr b hin', haddr c hin']
    exact H _ (raddr idx hin').2.1 (raddr idx hin').2.2

theorem inBox_two {f0 l0 f1 l1 : Int} {idx : List Int} (h : InBox [⟨f0, l0⟩, ⟨f1, l1⟩] idx) :
    ∃ a b, idx = [a, b] ∧ f0 ≤ a ∧ a < l0 ∧ f1 ≤ b ∧ b < l1 := by
  obtain ⟨a, r, rfl, h1, h2, h3⟩ := inBox_cons h
  obtain ⟨b, r', rfl, h4, h5, h6⟩ := inBox_cons h3
  cases r' with
  | nil => exact ⟨a, b, rfl, h1, h2, h4, h5⟩
  | cons _ _ => simp [InBox] at h6

theorem View.ext_eqv_of_exts_eq {a b : View} (h : a.exts = b.exts) (hne : a.lay ≠ []) : a.ext.eqv b.ext = true := by
  cases ha : a.lay with
  | nil => exact absurd ha hne
  | cons d l =>
    cases hb : b.lay with
    | nil => simp [View.exts, Layout.exts, ha, hb] at h
    | cons d' l' =>
      simp only [View.exts, Layout.exts, ha, hb, List.map_cons, List.cons.injEq] at h
      simp only [View.ext, ha, hb, h.1, Ext.eqv_refl]

theorem View.mem_addrs_iff (v : View) (a : Int) : a ∈ (boxIndices v.exts).map v.addr ↔ v.InImage a := by
  simp only [List.mem_map, View.InImage, mem_boxIndices]

theorem View.Injective.on_box {v : View} (h : v.Injective) :
    ∀ i ∈ boxIndices v.exts, ∀ j ∈ boxIndices v.exts, v.addr i = v.addr j → i = j :=
  fun i hi j hj => h i j ((mem_boxIndices _ i).mp hi) ((mem_boxIndices _ j).mp hj)

theorem View.Disjoint.on_box {v w : View} (h : v.Disjoint w) (hext : v.exts = w.exts) :
    ∀ i ∈ boxIndices v.exts, ∀ j ∈ boxIndices v.exts, v.addr i ≠ w.addr j :=
  fun i hi j hj => h i j ((mem_boxIndices _ i).mp hi) (hext ▸ (mem_boxIndices _ j).mp hj)

/-- injectivity and disjointness read off the lists of element addresses, where `decide` settles them for a concrete view -/
theorem View.injective_of_nodup {v : View} (h : ((boxIndices v.exts).map v.addr).Nodup) : v.Injective :=
  fun i j hi hj => inj_on_of_nodup_map h i ((mem_boxIndices _ i).mpr hi) j ((mem_boxIndices _ j).mpr hj)

theorem View.disjoint_of_forall {v w : View}
    (h : ∀ a ∈ (boxIndices v.exts).map v.addr, a ∉ (boxIndices w.exts).map w.addr) : v.Disjoint w :=
  fun i j hi hj e => h _ (List.mem_map.mpr ⟨i, (mem_boxIndices _ i).mpr hi, rfl⟩)
    (List.mem_map.mpr ⟨j, (mem_boxIndices _ j).mpr hj, e.symm⟩)

theorem View.boxIndices_nil_of_isEmpty {v : View} (h : v.lay.isEmpty = true) : boxIndices v.exts = [] := by
  cases hv : v.lay with
  | nil => simp [hv, Layout.isEmpty] at h
  | cons d l =>
    simp only [hv, Layout.isEmpty, beq_iff_eq] at h
    simp [View.exts, Layout.exts, hv, Dim.ext_of_nelems_zero h, boxIndices, Ext.size]

theorem ElemRange.isEmpty_ofView (v : View) : (ElemRange.ofView v).isEmpty = v.lay.isEmpty := by
  rw [ofView_eq]; simp [ElemRange.isEmpty, zeroBased_eq_map_zeroed, isEmpty_zeroed]

/-- `++` from the `begin()`s of the `elements()` of two views of equal extensions visits corresponding elements: both
    address lists are maps over the one index list `boxIndices a.exts` -/
theorem elemit_pair (a b : View) (ha : a.lay.WF) (hb : b.lay.WF) (hext : a.exts = b.exts) :
    ∃ ab ae bb, (ElemRange.ofView a).begin' = some ab ∧ (ElemRange.ofView a).end' = some ae ∧
      (ElemRange.ofView b).begin' = some bb ∧ (ElemRange.ofView a).size = (ElemRange.ofView b).size ∧
      (ae.diff ab).toNat = (boxIndices a.exts).length ∧
      ElemIt.addrs (boxIndices a.exts).length ab = some ((boxIndices a.exts).map a.addr) ∧
      ElemIt.addrs (boxIndices a.exts).length bb = some ((boxIndices a.exts).map b.addr) := by
  obtain ⟨ab, ae, hab, hae, hadiff, hasize, haaddrs⟩ := elemit_kth a ha
  obtain ⟨bb, _, hbb, _, _, hbsize, hbaddrs⟩ := elemit_kth b hb
  refine ⟨ab, ae, bb, hab, hae, hbb, ?_, ?_, haaddrs, hext ▸ hbaddrs⟩
  · rw [hasize, hbsize, View.numElements, View.numElements, numElements_eq_nElems ha, numElements_eq_nElems hb]
    exact congrArg nElems hext
  · rw [hadiff, ← boxIndices_length a ha, Int.toNat_natCast]

/-- the body shared by `ElemRange.assign` and `ElemRange.assignMoved`, with `loop` for `adl_copy`: if `loop` on iterators
    visiting `sA`, `dA` computes `F (dA.zip sA)`, the assignment is `F` over the common index list -/
theorem ElemRange.assign_loop_ofView (loop : Nat → ElemIt → ElemIt → Mem α → Option (Mem α))
    (F : List (Int × Int) → Mem α → Mem α)
    (hloop : ∀ n s d m sA dA, ElemIt.addrs n s = some sA → ElemIt.addrs n d = some dA →
      loop n s d m = some (F (dA.zip sA) m))
    (hnil : ∀ m, F [] m = m) (dst src : View) (m : Mem α) (hd : dst.lay.WF) (hs : src.lay.WF)
    (hext : dst.exts = src.exts) :
    (if (ElemRange.ofView dst).size ≠ (ElemRange.ofView src).size then none
      else if (ElemRange.ofView dst).isEmpty then some m
      else do
        let b ← (ElemRange.ofView src).begin'
        let e ← (ElemRange.ofView src).end'
        let d ← (ElemRange.ofView dst).begin'
        loop (e.diff b).toNat b d m) =
      some (F (((boxIndices dst.exts).map dst.addr).zip ((boxIndices dst.exts).map src.addr)) m) := by
  obtain ⟨sb, se, db, hsb, hse, hdb, hsz, hn, hsA, hdA⟩ := elemit_pair src dst hs hd hext.symm
  rw [if_neg (not_not_intro hsz.symm)]
  split
  · rename_i hemp
    rw [ElemRange.isEmpty_ofView] at hemp
    rw [View.boxIndices_nil_of_isEmpty hemp]
    exact congrArg some (hnil m).symm
  · simp only [hsb, hse, hdb, hext, Option.bind_eq_bind, Option.bind_some, hn]
    exact hloop _ sb db m _ _ hsA hdA

theorem ElemRange.assign_ofView (dst src : View) (m : Mem α) (hd : dst.lay.WF) (hs : src.lay.WF)
    (hext : dst.exts = src.exts) :
    (ElemRange.ofView dst).assign (ElemRange.ofView src) m =
      some (copyList (((boxIndices dst.exts).map dst.addr).zip ((boxIndices dst.exts).map src.addr)) m) :=
  ElemRange.assign_loop_ofView ElemIt.copyN copyList copyN_eq (fun _ => rfl) dst src m hd hs hext

theorem View.assign_eq (dst src : View) (m : Mem α) (hd : dst.lay.WF) (hs : src.lay.WF) (hne : dst.lay ≠ [])
    (hext : dst.exts = src.exts) :
    dst.assign src m =
      some (copyList (((boxIndices dst.exts).map dst.addr).zip ((boxIndices dst.exts).map src.addr)) m) := by
  obtain ⟨d, l, hl⟩ := List.exists_cons_of_ne_nil hne
  simp only [View.assign, hl, hext, Exts.eqv_refl, if_true]
  exact hext ▸ ElemRange.assign_ofView dst src m hd hs hext

theorem View.assignT_eq_assign (dst src : View) (m : Mem α) (hext : dst.exts = src.exts) :
    dst.assignT src m = dst.assign src m ∧ dst.assignElements src m = dst.assign src m := by
  unfold View.assignT View.assign View.assignElements
  cases dst.lay with
  | nil => exact ⟨rfl, rfl⟩
  | cons d l => simp only [hext, Exts.eqv_refl, if_true, and_self]

theorem ElemRange.assignMoved_ofView (moved : α) (dst src : View) (m : Mem α) (hd : dst.lay.WF) (hs : src.lay.WF)
    (hext : dst.exts = src.exts) :
    (ElemRange.ofView dst).assignMoved moved (ElemRange.ofView src) m =
      some (transferList (fun _ => moved)
        (((boxIndices dst.exts).map dst.addr).zip ((boxIndices dst.exts).map src.addr)) m) :=
  ElemRange.assign_loop_ofView (ElemIt.moveN moved) _ (moveN_eq moved) (fun _ => rfl) dst src m hd hs hext

theorem View.assignMoved_eq (moved : α) (dst src : View) (m : Mem α) (hd : dst.lay.WF) (hs : src.lay.WF)
    (hne : dst.lay ≠ []) (hext : dst.exts = src.exts) :
    dst.assignMoved moved src m =
      some (transferList (fun _ => moved)
        (((boxIndices dst.exts).map dst.addr).zip ((boxIndices dst.exts).map src.addr)) m) := by
  obtain ⟨d, l, hl⟩ := List.exists_cons_of_ne_nil hne
  simp only [View.assignMoved, hl, hext, Exts.eqv_refl, if_true]
  exact hext ▸ ElemRange.assignMoved_ofView moved dst src m hd hs hext

theorem View.swap_eq (a b : View) (m : Mem α) (ha : a.lay.WF) (hb : b.lay.WF) (hne : a.lay ≠ [])
    (hext : a.exts = b.exts) :
    a.swap b m =
      some (swapList (((boxIndices a.exts).map a.addr).zip ((boxIndices a.exts).map b.addr)) m) := by
  obtain ⟨ab, ae, bb, hab, hae, hbb, _, hn, haA, hbA⟩ := elemit_pair a b ha hb hext
  obtain ⟨d, l, hl⟩ := List.exists_cons_of_ne_nil hne
  simp only [View.swap, hl, ← hext, Exts.eqv_refl, if_true, hab, hae, hbb, Option.bind_eq_bind, Option.bind_some, hn]
  exact swapN_eq _ ab bb m _ _ haA hbA

theorem ElemRange.eq_ofView [DecidableEq α] (a b : View) (m : Mem α) (ha : a.lay.WF) (hb : b.lay.WF)
    (hext : a.exts = b.exts) :
    (ElemRange.ofView a).eq (ElemRange.ofView b) m =
      some (decide (∀ idx ∈ boxIndices a.exts, m (b.addr idx) = m (a.addr idx))) := by
  obtain ⟨bb, be, ab, hbb, hbe, hab, hsz, hn, hbA, haA⟩ := elemit_pair b a hb ha hext.symm
  simp only [ElemRange.eq, hsz, ne_eq, not_true_eq_false, if_false, hbb, hbe, hab, Option.bind_eq_bind, Option.bind_some,
    hn, ← hext] at hbA haA ⊢
  rw [equalN_eq m _ bb ab _ _ hbA haA, List.zip_map']
  simp only [List.forall_mem_map]

theorem View.read_eq (v : View) (m : Mem α) (hv : v.lay.WF) (hne : v.lay ≠ []) :
    v.read m = some ((boxIndices v.exts).map (fun idx => m (v.addr idx))) := by
  obtain ⟨b, e, _, hb, he, _, _, hn, haddrs, _⟩ := elemit_pair v v hv hv rfl
  obtain ⟨d, l, hl⟩ := List.exists_cons_of_ne_nil hne
  simp only [View.read, hl, ElemRange.read, hb, he, Option.bind_eq_bind, Option.bind_some, hn]
  rw [readN_eq m _ b _ haddrs, List.map_map]
  rfl

end Multi
