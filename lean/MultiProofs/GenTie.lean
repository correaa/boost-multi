/-
  MultiProofs.GenTie — the hand-written model (`MultiModel/Layout.lean`, `MultiModel/View.lean`) EQUALS the definitions
  regenerated from the current headers by tools/gen_layout.py (`MultiModel/Gen/LayoutGen.lean`), function by function,
  on every layout the C++ type admits (a `layout_t<D>` with D ≥ 1 is a non-empty list; the D > 1 class of
  `const_subarray` has at least two levels, the D = 1 specialisation exactly one).

  For the functions the library defines by recursion on D (`rotate`, `unrotate`, `reverse`, `num_elements`,
  `base_size`, `scale`, variadic `reindex`/`reindexed`) the generated definition is ONE unfolding of the code with the
  recursive call interpreted by the hand model: the tie theorem says that the hand model satisfies the code's own
  recursion equation, which determines it uniquely by induction on D.

  Every theorem here is a proof obligation of C01/C19 (and C02, C20 for the iterator and assertion parts): when the source
  changes, the generated text changes and the corresponding theorem stops checking.
-/
import MultiModel.Gen.LayoutGen
import MultiProofs.TieLemmas

namespace Multi.GenTie
open Multi Multi.Gen

/-- `layout().extension()` read through `hd` is the view's leading extension, also on the 0-D view -/
theorem hd_ext (v : View) : (hd v.lay).ext = v.ext := by
  unfold View.ext
  cases v.lay <;> rfl

theorem length_rotate (l : Layout) : (Layout.rotate l).length = l.length := by
  fun_induction Layout.rotate l with
  | case1 d0 d1 l ih => simp only [List.length_cons, ih]
  | case2 l h => rfl

theorem length_sliced (v : View) (a b : Int) : (v.sliced a b).lay.length = v.lay.length := by
  rcases v with ⟨_, _ | ⟨_, _ | _⟩⟩ <;> rfl

theorem length_paren_rng2 (v : View) (a b a' b' : Int) :
    (v.paren [Arg.rng a b, Arg.rng a' b']).lay.length = v.lay.length := by
  simp only [View.paren, View.unrotated, View.rotated, View.range, Layout.length_unrotate, length_rotate, length_sliced]

/-! ### index_range.hpp -/

theorem R_is_empty_tie (r : Ext) : R_is_empty r = r.isEmpty := rfl
theorem R_size_tie (r : Ext) : R_size r = r.size := rfl
theorem R_contains_tie (r : Ext) (i : Int) : R_contains r i = r.contains i := rfl
theorem R_front_tie (r : Ext) : R_front r = r.first := rfl
theorem R_back_tie (r : Ext) : R_back r = r.back := rfl
theorem R_eq_tie (a b : Ext) : R_eq a b = a.eqv b := rfl
theorem E_intersection_tie (a b : Ext) : E_intersection a b = a.inter b := rfl

theorem range_functions_are_the_code (a b : Ext) (i : Int) :
    R_is_empty a = a.isEmpty ∧ R_size a = a.size ∧ R_contains a i = a.contains i ∧ R_front a = a.first ∧ R_back a = a.back ∧
    R_eq a b = a.eqv b ∧ E_intersection a b = a.inter b :=
  ⟨rfl, rfl, rfl, rfl, rfl, rfl, rfl⟩

/-! ### layout.hpp, `layout_t<D>` -/

/-- the constructor from extensions: the hand model's `ofExts` is the code's mem-initialisers over the tail's layout -/
theorem L_ctor_tie (e : Ext) (es : List Ext) : L_ctor e (Layout.ofExts es) = Layout.ofExts (e :: es) := by
  simp only [L_ctor, Layout.ofExts, bne_iff_ne, ne_eq, Int.mul_comm]

/-- `layout_t<0>`: built with `nelems_ = 1`, and `num_elements()` returns it — the hand model's base case -/
theorem L0_tie : L0_num_elements [] L0_ctor_offset L0_ctor_nelems = Layout.numElements [] := rfl
theorem L0_base_size_tie (o n : Int) : L0_base_size [] o n = Layout.baseSize [] := rfl
theorem L0_reverse_tie (o n : Int) : L0_reverse [] o n = Layout.reverse [] := by
  simp only [L0_reverse, Layout.reverse, Layout.unrotate]

theorem L_reindex1_tie (d : Dim) (sub : Layout) (i : Int) : L_reindex1 (d :: sub) i = Layout.reindex1 (d :: sub) i := by
  simp only [L_reindex1, Layout.reindex1, hd_cons, tl_cons, Int.mul_comm]

theorem L_reindex_tie (l : Layout) (i j : Int) (rest : List Int) :
    L_reindex l i (j :: rest) = Layout.reindex l (i :: j :: rest) := rfl

theorem L_num_elements_tie (d : Dim) (sub : Layout) : L_num_elements (d :: sub) = Layout.numElements (d :: sub) := rfl

theorem L_is_empty_tie (d : Dim) (sub : Layout) : L_is_empty (d :: sub) = Layout.isEmpty (d :: sub) := rfl

theorem L_size_tie (d : Dim) (sub : Layout) : L_size (d :: sub) = d.size := by
  simp only [L_size, Dim.size, hd_cons, beq_iff_eq]

theorem L_extension_tie (d : Dim) (sub : Layout) : L_extension (d :: sub) = d.ext := by
  simp only [L_extension, Dim.ext, hd_cons, beq_iff_eq, Int.add_comm]

/-- the code guards each of the two divisibility assertions with its own `nelems == 0 ||`, the model both with one -/
theorem L_extension_asserts_tie (d : Dim) (sub : Layout) : L_extension_asserts (d :: sub) = d.extAsserts :=
  (Bool.or_and_distrib_left ..).symm

theorem L_base_size_tie (d : Dim) (sub : Layout) : L_base_size (d :: sub) = Layout.baseSize (d :: sub) := rfl

theorem L_drop_tie (d : Dim) (sub : Layout) (n : Int) : L_drop (d :: sub) n = Layout.drop (d :: sub) n := by
  simp only [L_drop, Layout.drop, hd_cons, tl_cons, Int.mul_comm]

theorem L_slice_tie (d : Dim) (sub : Layout) (a b : Int) : L_slice (d :: sub) a b = Layout.slice (d :: sub) a b := by
  by_cases h : d.nelems = 0 <;> simp only [L_slice, Layout.slice, Layout.isEmpty, hd_cons, tl_cons, beq_iff_eq, h, if_true, if_false]

theorem L_take_tie (d : Dim) (sub : Layout) (n : Int) : L_take (d :: sub) n = Layout.take (d :: sub) n := rfl

theorem L_halve_tie (d : Dim) (sub : Layout) : L_halve (d :: sub) = Layout.halve (d :: sub) := by
  simp only [L_halve, Layout.halve, hd_cons, bne_iff_ne, ne_eq]

theorem L_scale_tie (d : Dim) (sub : Layout) (num den : Int) :
    L_scale (d :: sub) num den = Layout.scale (d :: sub) num den := rfl

theorem L_scale_asserts_tie (d : Dim) (sub : Layout) (num den : Int) :
    (L_scale_asserts (d :: sub) num den && Layout.scaleAsserts sub num den) = Layout.scaleAsserts (d :: sub) num den := rfl

theorem L_transpose_tie (d d1 : Dim) (sub : Layout) :
    L_transpose (d :: d1 :: sub) = Layout.transpose (d :: d1 :: sub) := rfl

theorem L_rotate_tie (d : Dim) (sub : Layout) : L_rotate (d :: sub) = Layout.rotate (d :: sub) := by
  cases sub with
  | nil => simp only [L_rotate, Layout.rotate]; rfl
  | cons d1 sub => simp only [L_rotate, two_levels, decide_true, if_true, Layout.transpose, hd_cons, tl_cons, Layout.rotate]

theorem L_unrotate_tie (d : Dim) (sub : Layout) : L_unrotate (d :: sub) = Layout.unrotate (d :: sub) := by
  cases sub with
  | nil => rfl
  | cons d1 sub => simp only [L_unrotate, two_levels, decide_true, if_true, hd_cons, tl_cons, Layout.unrotate]

theorem L_reverse_tie (d : Dim) (sub : Layout) : L_reverse (d :: sub) = Layout.reverse (d :: sub) := by
  have hlen := Layout.length_unrotate (d :: sub)
  rw [Layout.reverse]
  split
  · rename_i h; rw [h] at hlen; cases hlen
  · rename_i d' sub' h; rw [L_reverse, h]; rfl

/-! ### array_ref.hpp, `const_subarray<T, D>` for D > 1 -/

section viewD
variable (b : Int) (d d1 : Dim) (sub : Layout)

theorem V_at_aux_tie (i : Int) : V_at_aux ⟨b, d :: d1 :: sub⟩ i = View.index ⟨b, d :: d1 :: sub⟩ i := by
  simp only [V_at_aux, View.index, hd_cons, tl_cons, Int.mul_comm, Int.add_comm]
theorem V_bracket_tie (i : Int) : V_bracket ⟨b, d :: d1 :: sub⟩ i = View.index ⟨b, d :: d1 :: sub⟩ i := by
  simp only [V_bracket, View.index, hd_cons, tl_cons, Int.mul_comm, Int.add_comm]
theorem V_at_aux_asserts_tie (i : Int) : V_at_aux_asserts ⟨b, d :: d1 :: sub⟩ i = View.indexAssert ⟨b, d :: d1 :: sub⟩ i := by
  simp only [V_at_aux_asserts, View.indexAssert, hd_cons, Bool.and_true]
theorem V_bracket_asserts_tie (i : Int) : V_bracket_asserts ⟨b, d :: d1 :: sub⟩ i = View.indexAssert ⟨b, d :: d1 :: sub⟩ i := by
  simp only [V_bracket_asserts, View.indexAssert, hd_cons, Bool.and_true]

theorem V_reindexed1_tie (i : Int) : V_reindexed1 ⟨b, d :: d1 :: sub⟩ i = View.reindexed1 ⟨b, d :: d1 :: sub⟩ i := rfl
theorem V_reindexed_tie (v : View) (i j : Int) (rest : List Int) :
    V_reindexed v i (j :: rest) = View.reindexed v (i :: j :: rest) := rfl

theorem V_taked_aux_tie (n : Int) : V_taked_aux ⟨b, d :: d1 :: sub⟩ n = View.taked ⟨b, d :: d1 :: sub⟩ n := rfl
theorem V_dropped_aux_tie (n : Int) : V_dropped_aux ⟨b, d :: d1 :: sub⟩ n = View.dropped ⟨b, d :: d1 :: sub⟩ n := by
  simp only [V_dropped_aux, View.dropped, hd_cons, tl_cons, Int.mul_comm, Int.add_comm]
theorem V_sliced_aux_tie (a c : Int) : V_sliced_aux ⟨b, d :: d1 :: sub⟩ a c = View.sliced ⟨b, d :: d1 :: sub⟩ a c := by
  simp only [V_sliced_aux, View.sliced, hd_cons, tl_cons, Int.mul_comm, Int.add_comm]
/-- the two bound assertions of `sliced_aux_` are the model's `slicedAsserts`; the third (null base with a non-zero
    pointer offset) constrains the pointer, which the model does not carry -/
theorem V_sliced_aux_asserts_tie (a c : Int) :
    (V_sliced_aux_asserts ⟨b, d :: d1 :: sub⟩ a c = true) ↔
      (View.slicedAsserts ⟨b, d :: d1 :: sub⟩ a c = true ∧ (b ≠ 0 ∨ a * d.stride - d.offset = 0)) := by
  simp only [V_sliced_aux_asserts, View.slicedAsserts, hd_cons, Bool.and_eq_true, Bool.or_eq_true, beq_iff_eq,
    bne_iff_ne, ne_eq, Bool.and_true, Int.mul_comm]
theorem V_strided_aux_tie (s : Int) : V_strided_aux ⟨b, d :: d1 :: sub⟩ s = View.strided ⟨b, d :: d1 :: sub⟩ s := rfl
theorem V_range_tie (v : View) (e : Ext) : V_range v e = View.range v e.first e.last := by
  simp only [V_range, View.range_eq_sliced, Ext.size, Int.sub_add_cancel]
theorem V_blocked_tie (v : View) (a c : Int) : V_blocked v a c = View.blocked v a c := rfl
theorem V_halved_aux_tie (v : View) : V_halved_aux v = View.halved v := rfl
theorem V_partitioned_aux_tie (n : Int) :
    V_partitioned_aux ⟨b, d :: d1 :: sub⟩ n = View.partitioned ⟨b, d :: d1 :: sub⟩ n := by
  simp only [V_partitioned_aux, View.partitioned, hd_cons, tl_cons, bne_iff_ne, ne_eq]
theorem V_partitioned_aux_asserts_tie (n : Int) :
    V_partitioned_aux_asserts ⟨b, d :: d1 :: sub⟩ n = View.partitionedAsserts ⟨b, d :: d1 :: sub⟩ n := rfl
theorem V_chunked_aux_tie (c : Int) : V_chunked_aux ⟨b, d :: d1 :: sub⟩ c = View.chunked ⟨b, d :: d1 :: sub⟩ c := rfl
theorem V_is_flattable_tie : V_is_flattable ⟨b, d :: d1 :: sub⟩ = View.isFlattable ⟨b, d :: d1 :: sub⟩ := by
  simp only [V_is_flattable, View.isFlattable, hd_cons, tl_cons, int_beq_comm d1.nelems]
  rfl
theorem V_flatted_tie : V_flatted ⟨b, d :: d1 :: sub⟩ = View.flatted ⟨b, d :: d1 :: sub⟩ := rfl
theorem V_broadcasted_tie (v : View) (junk : Int) : V_broadcasted v junk = View.broadcasted v junk := rfl
theorem V_reversed_aux_tie (v : View) : V_reversed_aux v = View.reversed v := rfl
theorem V_transposed_aux_tie (v : View) : V_transposed_aux v = View.transposed v := rfl
theorem V_rotated_aux_tie (v : View) : V_rotated_aux v = View.rotated v := rfl
theorem V_unrotated_aux_tie (v : View) : V_unrotated_aux v = View.unrotated v := rfl

/-- `diagonal_aux_`: whenever the code's own `(*this)({0, n}, {0, n})` has two levels (it always has: the call syntax
    with two ranges preserves D ≥ 2), the generated body is the hand model's `diagonal` -/
theorem V_diagonal_aux_tie (e0 e1 : Dim) (rest : Layout)
    (h : (View.paren ⟨b, d :: d1 :: sub⟩ [Arg.rng 0 (min d.size d1.size), Arg.rng 0 (min d.size d1.size)]).lay = e0 :: e1 :: rest) :
    V_diagonal_aux ⟨b, d :: d1 :: sub⟩ = View.diagonal ⟨b, d :: d1 :: sub⟩ := by
  simp only [V_diagonal_aux, View.diagonal, Layout.sizes, List.map_cons, List.getD_cons_zero, List.getD_cons_succ, h, hd_cons, tl_cons]

/-- `begin_aux_` / `end_aux_` build the members (pointer, sub-layout, stride) of the iterators the model calls `View.begin'` / `View.end'` -/
theorem V_begin_aux_tie : V_begin_aux ⟨b, d :: d1 :: sub⟩ = (b, d1 :: sub, d.stride) := rfl
theorem V_end_aux_tie : V_end_aux ⟨b, d :: d1 :: sub⟩ = (b + d.nelems, d1 :: sub, d.stride) := by
  simp only [V_end_aux, hd_cons, tl_cons, Int.add_comm]
end viewD

/-- `diagonal_aux_` unconditionally: the call syntax with two ranges preserves the number of levels, so the hypothesis of
    `V_diagonal_aux_tie` always holds -/
theorem diagonal_is_the_code (b : Int) (d d1 : Dim) (sub : Layout) :
    V_diagonal_aux ⟨b, d :: d1 :: sub⟩ = View.diagonal ⟨b, d :: d1 :: sub⟩ := by
  have hl := length_paren_rng2 ⟨b, d :: d1 :: sub⟩ 0 (min d.size d1.size) 0 (min d.size d1.size)
  match h : (View.paren _ _).lay, hl with
  | e0 :: e1 :: rest, _ => exact V_diagonal_aux_tie b d d1 sub e0 e1 rest h

/-! ### array_ref.hpp, `const_subarray<T, 1>` -/

section view1
variable (b : Int) (d : Dim)

theorem V1_at_aux_tie (i : Int) : V1_at_aux ⟨b, [d]⟩ i = View.index ⟨b, [d]⟩ i := by
  simp only [V1_at_aux, View.index, hd_cons, Int.mul_comm, Int.add_comm]
theorem V1_at_aux_asserts_tie (i : Int) : V1_at_aux_asserts ⟨b, [d]⟩ i = View.indexAssert ⟨b, [d]⟩ i := by
  simp only [V1_at_aux_asserts, View.indexAssert, hd_cons, Bool.and_true]
theorem V1_reindexed1_tie (i : Int) : V1_reindexed1 ⟨b, [d]⟩ i = View.reindexed1 ⟨b, [d]⟩ i := rfl
theorem V1_taked_aux_tie (n : Int) : V1_taked_aux ⟨b, [d]⟩ n = View.taked ⟨b, [d]⟩ n := rfl
theorem V1_dropped_aux_tie (n : Int) : V1_dropped_aux ⟨b, [d]⟩ n = View.dropped ⟨b, [d]⟩ n := by
  simp only [V1_dropped_aux, View.dropped, Layout.drop, hd_cons, Int.mul_comm, Int.add_comm]
theorem V1_sliced_aux_tie (a c : Int) : V1_sliced_aux ⟨b, [d]⟩ a c = View.sliced ⟨b, [d]⟩ a c := by
  simp only [V1_sliced_aux, View.sliced, hd_cons, Int.mul_comm]
  congr 1
  omega
theorem V1_strided_aux_tie (s : Int) : V1_strided_aux ⟨b, [d]⟩ s = View.strided ⟨b, [d]⟩ s := rfl
/-- D = 1 `range` calls `sliced(front, last)`; the model's `range` is `sliced a (a + (b − a))` (the D > 1 text) -/
theorem V1_range_tie (v : View) (e : Ext) : V1_range v e = View.range v e.first e.last := by
  simp only [V1_range, View.range_eq_sliced]
theorem V1_blocked_tie (v : View) (a c : Int) : V1_blocked v a c = View.blocked v a c := rfl
theorem V1_halved_aux_tie (v : View) : V1_halved_aux v = View.halved v := rfl
theorem V1_partitioned_aux_tie (n : Int) : V1_partitioned_aux ⟨b, [d]⟩ n = View.partitioned ⟨b, [d]⟩ n := by
  simp only [V1_partitioned_aux, View.partitioned, hd_cons, tl_cons, bne_iff_ne, ne_eq]
theorem V1_partitioned_aux_asserts_tie (n : Int) :
    V1_partitioned_aux_asserts ⟨b, [d]⟩ n = View.partitionedAsserts ⟨b, [d]⟩ n := rfl
theorem V1_chunked_aux_tie (c : Int) : V1_chunked_aux ⟨b, [d]⟩ c = View.chunked ⟨b, [d]⟩ c := rfl
theorem V1_reversed_aux_tie (v : View) : V1_reversed_aux v = View.reversed v := rfl
end view1

/-! ### public wrappers of `const_subarray` (D > 1, D = 1) and the overrides of the mutable class `subarray`

Each forwards to the `_aux_` function tied above (all `const&` / `&` / `&&` overloads translate to the same text, which the
translator checks).  The call-syntax dispatcher `paren_aux_` is the model's `View.paren`, one argument at a time. -/

theorem wrappers_are_the_code (v : View) (a c : Int) (e : Ext) (args : List Arg) :
    W_sliced v a c = v.sliced a c ∧ W_taked v a = v.taked a ∧ W_dropped v a = v.dropped a ∧ W_strided v a = v.strided a ∧
    W_rotated v = v.rotated ∧ W_unrotated v = v.unrotated ∧ W_transposed v = v.transposed ∧ W_reversed v = v.reversed ∧
    W_partitioned v a = v.partitioned a ∧ W_chunked v a = v.chunked a ∧ W_halved v = v.halved ∧ W_diagonal v = v.diagonal ∧
    W1_sliced v a c = v.sliced a c ∧ W1_taked v a = v.taked a ∧ W1_dropped v a = v.dropped a ∧ W1_strided v a = v.strided a ∧
    W1_partitioned v a = v.partitioned a ∧ W1_chunked v a = v.chunked a ∧ W1_halved v = v.halved ∧
    S_sliced v a c = v.sliced a c ∧ S_range v e = v.range e.first e.last ∧ S_taked v a = v.taked a ∧ S_dropped v a = v.dropped a ∧
    S_strided v a = v.strided a ∧ S_rotated v = v.rotated ∧ S_unrotated v = v.unrotated ∧ S_transposed v = v.transposed ∧
    S_reversed v = v.reversed ∧ S_partitioned v a = v.partitioned a ∧ S_chunked v a = v.chunked a ∧ S_diagonal v = v.diagonal ∧
    S_bracket v a = v.index a := by
  have h : S_range v e = v.range e.first e.last := by
    simp only [S_range, View.range_eq_sliced, Ext.size, Int.sub_add_cancel]
  exact ⟨rfl, rfl, rfl, rfl, rfl, rfl, rfl, rfl, rfl, rfl, rfl, rfl, rfl, rfl, rfl, rfl, rfl, rfl, rfl, rfl, h, rfl, rfl, rfl, rfl, rfl, rfl,
    rfl, rfl, rfl, rfl, rfl⟩

theorem S_flatted_tie (b : Int) (d d1 : Dim) (sub : Layout) : S_flatted ⟨b, d :: d1 :: sub⟩ = View.flatted ⟨b, d :: d1 :: sub⟩ := rfl

/-- the call-syntax dispatcher, overload by overload, is `View.paren` consuming one argument; an `intersecting_range`
    (`multi::ALL`, `multi::_ < k`, `k <= multi::_`) is first intersected with the leading extension -/
theorem paren_dispatch_is_the_code (v : View) (i : Int) (r : Ext) (args : List Arg) :
    W_paren0 v = v.paren [] ∧ S_paren0 v = v.paren [] ∧ W1_paren0 v = v.paren [] ∧
    S_paren_idx1 v i = v.paren [Arg.idx i] ∧ W1_paren_idx v i = v.paren [Arg.idx i] ∧
    S_paren_idx v i args = v.paren (Arg.idx i :: args) ∧
    W_paren_rng v r args = v.paren (Arg.rng r.first r.last :: args) ∧ S_paren_rng v r args = v.paren (Arg.rng r.first r.last :: args) ∧
    W_paren_clip v r args = v.paren (Arg.rng (v.ext.inter r).first (v.ext.inter r).last :: args) ∧
    S_paren_clip v r args = v.paren (Arg.rng (v.ext.inter r).first (v.ext.inter r).last :: args) := by
  refine ⟨rfl, rfl, rfl, rfl, rfl, rfl, rfl, rfl, ?_, ?_⟩
  · rw [W_paren_clip, hd_ext]
  · rw [S_paren_clip, hd_ext]

/-- `multi::ALL` is the clip with the whole index range: the model's `Arg.all` case is the code's `intersecting_range` case -/
theorem paren_all_is_clip (v : View) (args : List Arg) :
    v.paren (Arg.all :: args) = v.paren (Arg.rng (v.ext.inter ⟨v.ext.first, v.ext.last⟩).first (v.ext.inter ⟨v.ext.first, v.ext.last⟩).last :: args) := rfl

theorem W1_paren_tie (b : Int) (d : Dim) (r : Ext) :
    W1_paren_rng ⟨b, [d]⟩ r = View.range ⟨b, [d]⟩ r.first r.last ∧
    W1_paren_clip ⟨b, [d]⟩ r = View.range ⟨b, [d]⟩ (d.ext.inter r).first (d.ext.inter r).last :=
  ⟨rfl, View.paren_rng_1d b d _ _⟩

/-- the whole tie in one statement (the name the checks audit): every regenerated function agrees with the hand model -/
theorem layout_functions_are_the_code :
    (∀ e es, L_ctor e (Layout.ofExts es) = Layout.ofExts (e :: es)) ∧
    (∀ d sub, L_size (d :: sub) = d.size ∧ L_extension (d :: sub) = d.ext ∧ L_num_elements (d :: sub) = Layout.numElements (d :: sub)) ∧
    (∀ d sub n, L_take (d :: sub) n = Layout.take (d :: sub) n ∧ L_drop (d :: sub) n = Layout.drop (d :: sub) n) ∧
    (∀ d sub a b, L_slice (d :: sub) a b = Layout.slice (d :: sub) a b) ∧
    (∀ d sub, L_halve (d :: sub) = Layout.halve (d :: sub)) ∧
    (∀ d sub n m, L_scale (d :: sub) n m = Layout.scale (d :: sub) n m) ∧
    (∀ d d1 sub, L_transpose (d :: d1 :: sub) = Layout.transpose (d :: d1 :: sub)) ∧
    (∀ d sub, L_rotate (d :: sub) = Layout.rotate (d :: sub) ∧ L_unrotate (d :: sub) = Layout.unrotate (d :: sub) ∧
              L_reverse (d :: sub) = Layout.reverse (d :: sub)) ∧
    (∀ d sub i, L_reindex1 (d :: sub) i = Layout.reindex1 (d :: sub) i) ∧
    (∀ l i j rest, L_reindex l i (j :: rest) = Layout.reindex l (i :: j :: rest)) :=
  ⟨L_ctor_tie, fun d sub => ⟨L_size_tie d sub, L_extension_tie d sub, L_num_elements_tie d sub⟩,
   fun d sub n => ⟨L_take_tie d sub n, L_drop_tie d sub n⟩, L_slice_tie, L_halve_tie, L_scale_tie, L_transpose_tie,
   fun d sub => ⟨L_rotate_tie d sub, L_unrotate_tie d sub, L_reverse_tie d sub⟩, L_reindex1_tie, L_reindex_tie⟩

theorem view_functions_are_the_code (b : Int) (d d1 : Dim) (sub : Layout) :
    let v : View := ⟨b, d :: d1 :: sub⟩
    let w : View := ⟨b, [d]⟩
    (∀ i, V_at_aux v i = v.index i ∧ V_bracket v i = v.index i ∧ V1_at_aux w i = w.index i) ∧
    (∀ i, V_reindexed1 v i = v.reindexed1 i ∧ V1_reindexed1 w i = w.reindexed1 i) ∧
    (∀ n, V_taked_aux v n = v.taked n ∧ V1_taked_aux w n = w.taked n) ∧
    (∀ n, V_dropped_aux v n = v.dropped n ∧ V1_dropped_aux w n = w.dropped n) ∧
    (∀ a c, V_sliced_aux v a c = v.sliced a c ∧ V1_sliced_aux w a c = w.sliced a c) ∧
    (∀ s, V_strided_aux v s = v.strided s ∧ V1_strided_aux w s = w.strided s) ∧
    (∀ (u : View) e, V_range u e = u.range e.first e.last ∧ V1_range u e = u.range e.first e.last) ∧
    (∀ (u : View) a c, V_blocked u a c = u.blocked a c ∧ V1_blocked u a c = u.blocked a c) ∧
    (∀ (u : View), V_halved_aux u = u.halved ∧ V1_halved_aux u = u.halved) ∧
    (∀ n, V_partitioned_aux v n = v.partitioned n ∧ V1_partitioned_aux w n = w.partitioned n) ∧
    (∀ c, V_chunked_aux v c = v.chunked c ∧ V1_chunked_aux w c = w.chunked c) ∧
    (V_is_flattable v = v.isFlattable ∧ V_flatted v = v.flatted) ∧
    (∀ (u : View) j, V_broadcasted u j = u.broadcasted j) ∧
    (∀ (u : View), V_reversed_aux u = u.reversed ∧ V1_reversed_aux u = u.reversed ∧ V_transposed_aux u = u.transposed ∧
                   V_rotated_aux u = u.rotated ∧ V_unrotated_aux u = u.unrotated) ∧
    (∀ (u : View) i j rest, V_reindexed u i (j :: rest) = u.reindexed (i :: j :: rest)) :=
  ⟨fun i => ⟨V_at_aux_tie b d d1 sub i, V_bracket_tie b d d1 sub i, V1_at_aux_tie b d i⟩,
    fun i => ⟨V_reindexed1_tie b d d1 sub i, V1_reindexed1_tie b d i⟩,
    fun n => ⟨V_taked_aux_tie b d d1 sub n, V1_taked_aux_tie b d n⟩,
    fun n => ⟨V_dropped_aux_tie b d d1 sub n, V1_dropped_aux_tie b d n⟩,
    fun a c => ⟨V_sliced_aux_tie b d d1 sub a c, V1_sliced_aux_tie b d a c⟩,
    fun s => ⟨V_strided_aux_tie b d d1 sub s, V1_strided_aux_tie b d s⟩,
    fun u e => ⟨V_range_tie u e, V1_range_tie u e⟩,
    fun u a c => ⟨V_blocked_tie u a c, V1_blocked_tie u a c⟩,
    fun u => ⟨V_halved_aux_tie u, V1_halved_aux_tie u⟩,
    fun n => ⟨V_partitioned_aux_tie b d d1 sub n, V1_partitioned_aux_tie b d n⟩,
    fun c => ⟨V_chunked_aux_tie b d d1 sub c, V1_chunked_aux_tie b d c⟩,
    ⟨V_is_flattable_tie b d d1 sub, V_flatted_tie b d d1 sub⟩,
    V_broadcasted_tie,
    fun u => ⟨V_reversed_aux_tie u, V1_reversed_aux_tie u, V_transposed_aux_tie u, V_rotated_aux_tie u, V_unrotated_aux_tie u⟩,
    V_reindexed_tie⟩

theorem assertions_are_the_code (b : Int) (d d1 : Dim) (sub : Layout) :
    let v : View := ⟨b, d :: d1 :: sub⟩
    let w : View := ⟨b, [d]⟩
    (∀ i, V_at_aux_asserts v i = v.indexAssert i ∧ V_bracket_asserts v i = v.indexAssert i ∧ V1_at_aux_asserts w i = w.indexAssert i) ∧
    (∀ a c, V_sliced_aux_asserts v a c = true ↔ (v.slicedAsserts a c = true ∧ (b ≠ 0 ∨ a * d.stride - d.offset = 0))) ∧
    (∀ n, V_partitioned_aux_asserts v n = v.partitionedAsserts n ∧ V1_partitioned_aux_asserts w n = w.partitionedAsserts n) ∧
    (L_extension_asserts (d :: sub) = d.extAsserts) ∧
    (∀ n m, (L_scale_asserts (d :: sub) n m && Layout.scaleAsserts sub n m) = Layout.scaleAsserts (d :: sub) n m) :=
  ⟨fun i => ⟨V_at_aux_asserts_tie b d d1 sub i, V_bracket_asserts_tie b d d1 sub i, V1_at_aux_asserts_tie b d i⟩,
    V_sliced_aux_asserts_tie b d d1 sub,
    fun n => ⟨V_partitioned_aux_asserts_tie b d d1 sub n, V1_partitioned_aux_asserts_tie b d n⟩,
    L_extension_asserts_tie d sub, L_scale_asserts_tie d sub⟩

/-! ### assertion inventory of the translated functions

Every translated function carries a generated `<name>_asserts`. The ones below have NO assertion in the current source (an
assertion added to one of them makes the corresponding line fail); those of the functions the model has an assertion predicate
for are tied above. The `_asserts` of the wrappers and dispatch functions (`W_*`, `S_*`, `W1_*`) occur in no theorem. -/

theorem R_is_empty_asserts_tie (r : Ext) : R_is_empty_asserts r = true := rfl
theorem R_size_asserts_tie (r : Ext) : R_size_asserts r = true := rfl
theorem R_contains_asserts_tie (r : Ext) (value : Int) : R_contains_asserts r value = true := rfl
theorem R_front_asserts_tie (r : Ext) : R_front_asserts r = true := rfl
theorem R_back_asserts_tie (r : Ext) : R_back_asserts r = true := rfl
theorem L_reindex1_asserts_tie (l : Layout) (idx : Int) : L_reindex1_asserts l idx = true := rfl
theorem L_reindex_asserts_tie (l : Layout) (idx : Int) (rest : List Int) : L_reindex_asserts l idx rest = true := rfl
theorem L_num_elements_asserts_tie (l : Layout) : L_num_elements_asserts l = true := rfl
theorem L_is_empty_asserts_tie (l : Layout) : L_is_empty_asserts l = true := rfl
theorem L_size_asserts_tie (l : Layout) : L_size_asserts l = true := rfl
theorem L_base_size_asserts_tie (l : Layout) : L_base_size_asserts l = true := rfl
theorem L_slice_asserts_tie (l : Layout) (first : Int) (last : Int) : L_slice_asserts l first last = true := rfl
theorem L_take_asserts_tie (l : Layout) (n : Int) : L_take_asserts l n = true := rfl
theorem L_transpose_asserts_tie (l : Layout) : L_transpose_asserts l = true := rfl
theorem L_reverse_asserts_tie (l : Layout) : L_reverse_asserts l = true := rfl
theorem L_rotate_asserts_tie (l : Layout) : L_rotate_asserts l = true := rfl
theorem L_unrotate_asserts_tie (l : Layout) : L_unrotate_asserts l = true := rfl
theorem L0_num_elements_asserts_tie (l : Layout) (offset0 nelems0 : Int) : L0_num_elements_asserts l offset0 nelems0 = true := rfl
theorem L0_base_size_asserts_tie (l : Layout) (offset0 nelems0 : Int) : L0_base_size_asserts l offset0 nelems0 = true := rfl
theorem L0_reverse_asserts_tie (l : Layout) (offset0 nelems0 : Int) : L0_reverse_asserts l offset0 nelems0 = true := rfl
theorem V_reindexed1_asserts_tie (v : View) (first : Int) : V_reindexed1_asserts v first = true := rfl
theorem V_reindexed_asserts_tie (v : View) (first : Int) (idxs : List Int) : V_reindexed_asserts v first idxs = true := rfl
theorem V_strided_aux_asserts_tie (v : View) (diff : Int) : V_strided_aux_asserts v diff = true := rfl
theorem V_range_asserts_tie (v : View) (irng : Ext) : V_range_asserts v irng = true := rfl
theorem V_blocked_asserts_tie (v : View) (first : Int) (last : Int) : V_blocked_asserts v first last = true := rfl
theorem V_halved_aux_asserts_tie (v : View) : V_halved_aux_asserts v = true := rfl
theorem V_is_flattable_asserts_tie (v : View) : V_is_flattable_asserts v = true := rfl
theorem V_flatted_asserts_tie (v : View) : V_flatted_asserts v = true := rfl
theorem V_broadcasted_asserts_tie (v : View) (junk : Int) : V_broadcasted_asserts v junk = true := rfl
theorem V_diagonal_aux_asserts_tie (v : View) : V_diagonal_aux_asserts v = true := rfl
theorem V_reversed_aux_asserts_tie (v : View) : V_reversed_aux_asserts v = true := rfl
theorem V_transposed_aux_asserts_tie (v : View) : V_transposed_aux_asserts v = true := rfl
theorem V_rotated_aux_asserts_tie (v : View) : V_rotated_aux_asserts v = true := rfl
theorem V_unrotated_aux_asserts_tie (v : View) : V_unrotated_aux_asserts v = true := rfl
theorem V_begin_aux_asserts_tie (v : View) : V_begin_aux_asserts v = true := rfl
theorem V_end_aux_asserts_tie (v : View) : V_end_aux_asserts v = true := rfl
theorem V1_reindexed1_asserts_tie (v : View) (first : Int) : V1_reindexed1_asserts v first = true := rfl
theorem V1_dropped_aux_asserts_tie (v : View) (count : Int) : V1_dropped_aux_asserts v count = true := rfl
theorem V1_sliced_aux_asserts_tie (v : View) (first : Int) (last : Int) : V1_sliced_aux_asserts v first last = true := rfl
theorem V1_strided_aux_asserts_tie (v : View) (diff : Int) : V1_strided_aux_asserts v diff = true := rfl
theorem V1_range_asserts_tie (v : View) (rng : Ext) : V1_range_asserts v rng = true := rfl
theorem V1_blocked_asserts_tie (v : View) (first : Int) (last : Int) : V1_blocked_asserts v first last = true := rfl
theorem V1_halved_aux_asserts_tie (v : View) : V1_halved_aux_asserts v = true := rfl
theorem V1_reversed_aux_asserts_tie (v : View) : V1_reversed_aux_asserts v = true := rfl

theorem L_drop_asserts_tie (d : Dim) (sub : Layout) (n : Int) : (L_drop_asserts (d :: sub) n = true ↔ n ≤ d.size) :=
  decide_eq_true_iff
theorem L_halve_asserts_tie (d : Dim) (sub : Layout) : L_halve_asserts (d :: sub) = (d.size.tmod 2 == 0) := rfl
theorem V_taked_aux_asserts_tie (b : Int) (d d1 : Dim) (sub : Layout) (n : Int) :
    (V_taked_aux_asserts ⟨b, d :: d1 :: sub⟩ n = true ↔ n ≤ d.size) :=
  decide_eq_true_iff
theorem V_dropped_aux_asserts_tie (b : Int) (d d1 : Dim) (sub : Layout) (n : Int) :
    (V_dropped_aux_asserts ⟨b, d :: d1 :: sub⟩ n = true ↔ n ≤ d.size) :=
  decide_eq_true_iff
theorem V1_taked_aux_asserts_tie (b : Int) (d : Dim) (n : Int) :
    (V1_taked_aux_asserts ⟨b, [d]⟩ n = true ↔ n ≤ d.size) :=
  decide_eq_true_iff
theorem V_chunked_aux_asserts_tie (b : Int) (d d1 : Dim) (sub : Layout) (c : Int) :
    V_chunked_aux_asserts ⟨b, d :: d1 :: sub⟩ c = (d.size.tmod c == 0) := rfl
theorem V1_chunked_aux_asserts_tie (b : Int) (d : Dim) (c : Int) :
    V1_chunked_aux_asserts ⟨b, [d]⟩ c = (d.size.tmod c == 0) := rfl

/-- the take/drop/chunk assertions are the bounds C20 proves for in-domain arguments (`asserts_silent_take_drop`) -/
theorem take_drop_assertions_are_the_code (b : Int) (d d1 : Dim) (sub : Layout) (n : Int) :
    (V_taked_aux_asserts ⟨b, d :: d1 :: sub⟩ n = true ↔ n ≤ (View.mk b (d :: d1 :: sub)).size) ∧
    (V_dropped_aux_asserts ⟨b, d :: d1 :: sub⟩ n = true ↔ n ≤ (View.mk b (d :: d1 :: sub)).size) ∧
    (V1_taked_aux_asserts ⟨b, [d]⟩ n = true ↔ n ≤ (View.mk b [d]).size) ∧
    (L_drop_asserts (d :: sub) n = true ↔ n ≤ d.size) ∧
    V_chunked_aux_asserts ⟨b, d :: d1 :: sub⟩ n = (d.size.tmod n == 0) ∧ V1_chunked_aux_asserts ⟨b, [d]⟩ n = (d.size.tmod n == 0) ∧
    L_halve_asserts (d :: sub) = (d.size.tmod 2 == 0) :=
  ⟨V_taked_aux_asserts_tie b d d1 sub n, V_dropped_aux_asserts_tie b d d1 sub n, V1_taked_aux_asserts_tie b d n,
   L_drop_asserts_tie d sub n, V_chunked_aux_asserts_tie b d d1 sub n, V1_chunked_aux_asserts_tie b d n, L_halve_asserts_tie d sub⟩

/-- functions of the view algebra whose body has no assertion in the current source -/
theorem unasserted_functions_are_the_code (l : Layout) (v : View) (e : Ext) (i j : Int) (rest : List Int) :
    L_slice_asserts l i j = true ∧ L_take_asserts l i = true ∧ L_transpose_asserts l = true ∧ L_rotate_asserts l = true ∧
    L_unrotate_asserts l = true ∧ L_reverse_asserts l = true ∧ L_reindex1_asserts l i = true ∧ L_reindex_asserts l i rest = true ∧
    L_size_asserts l = true ∧ L_num_elements_asserts l = true ∧
    V_strided_aux_asserts v i = true ∧ V_range_asserts v e = true ∧ V_blocked_asserts v i j = true ∧ V_halved_aux_asserts v = true ∧
    V_flatted_asserts v = true ∧ V_is_flattable_asserts v = true ∧ V_broadcasted_asserts v i = true ∧ V_diagonal_aux_asserts v = true ∧
    V_reversed_aux_asserts v = true ∧ V_transposed_aux_asserts v = true ∧ V_rotated_aux_asserts v = true ∧
    V_unrotated_aux_asserts v = true ∧ V_reindexed1_asserts v i = true ∧ V_reindexed_asserts v i rest = true ∧
    V1_dropped_aux_asserts v i = true ∧ V1_sliced_aux_asserts v i j = true ∧ V1_strided_aux_asserts v i = true ∧
    V1_range_asserts v e = true ∧ V1_blocked_asserts v i j = true ∧ V1_halved_aux_asserts v = true ∧ V1_reversed_aux_asserts v = true ∧
    V1_reindexed1_asserts v i = true :=
  ⟨rfl, rfl, rfl, rfl, rfl, rfl, rfl, rfl, rfl, rfl, rfl, rfl, rfl, rfl, rfl, rfl, rfl, rfl, rfl, rfl, rfl, rfl, rfl, rfl, rfl, rfl, rfl, rfl, rfl, rfl, rfl, rfl⟩

end Multi.GenTie
