/-
  The equations by which the regenerated text differs in FORM from the hand model, used by the tie proofs (GenTie*.lean).
  The translators emit commutative comparisons in ONE canonical operand order (tools/gen_layout.py `canon2`), which may be
  the opposite of the order the hand model happens to use; they keep a negated condition where the source has one; they
  render a `return` after a fallible step as `bind … some`.
-/
import MultiModel.View

namespace Multi

theorem int_beq_comm (x y : Int) : (x == y) = (y == x) := BEq.comm

theorem Ext.eqv_comm (a b : Ext) : a.eqv b = b.eqv a := by
  unfold Ext.eqv
  rw [int_beq_comm a.first b.first, int_beq_comm a.last b.last, Bool.and_comm a.isEmpty b.isEmpty]

theorem Exts.eqv_comm (a b : List Ext) : Exts.eqv a b = Exts.eqv b a := by
  induction a generalizing b with
  | nil => cases b <;> rfl
  | cons x xs ih =>
    cases b with
    | nil => rfl
    | cons y ys => rw [Exts.eqv, Exts.eqv, ih ys, Ext.eqv_comm x y]

/-- the test `D > 1` of the members defined by recursion on D (`if constexpr(D > 1)`, rendered `1 < length`) with two levels -/
theorem two_levels {α : Type} (a b : α) (l : List α) : (1 : Int) < ((a :: b :: l).length : Int) := by
  simp only [List.length_cons]; omega

/-- the code tests `a == b` and fails in the `else`; the hand model tests `a ≠ b` and fails first -/
theorem ite_int_beq {β : Type} (a b : Int) (x y : β) : (if (a == b) = true then x else y) = if a ≠ b then y else x := by
  simp only [beq_iff_eq, ne_eq, ite_not]

theorem ite_not_bool {α : Type} (b : Bool) (x y : α) : (if (!b) = true then x else y) = if b = true then y else x := by
  cases b <;> rfl

/-- a `return f(x)` after a fallible step is rendered `bind … some` by the translators; the hand model writes `map` -/
theorem Option.bind_some_eq_map {α β : Type} (o : Option α) (f : α → β) : (o.bind fun a => some (f a)) = o.map f := by
  cases o <;> rfl

theorem View.range_eq_sliced (v : View) (a b : Int) : v.range a b = v.sliced a b := by
  rw [View.range, Int.add_comm, Int.sub_add_cancel]

/-- on a one-dimensional view the rotations around the recursive call of the call syntax are identities -/
theorem View.paren_rng_1d (b : Int) (d : Dim) (x y : Int) : View.paren ⟨b, [d]⟩ [Arg.rng x y] = View.range ⟨b, [d]⟩ x y := by
  simp only [View.paren, View.range, View.sliced, View.rotated, View.unrotated, Layout.slice, Layout.rotate, Layout.unrotate]

end Multi
