/-
  MultiProofs.BlasGemm — specification of the matrix product on logical contents and the generic certificate
  `GemmOK`: a condition on (call, operand descriptors) that is SUFFICIENT for
  "the call is legal and its reference post-state is alpha·A·B + beta·C on the logical contents, nothing else changed".
  A leaf of C13 establishes `GemmOK` by saying which orientation its call uses (`GemmOK.direct`, `GemmOK.transposed`) and,
  for each operand, its storage order and flag (`Operand`).
-/
import MultiModel.Blas
import MultiProofs.BlasLemmas
import MultiProofs.BlasShapes

namespace Multi.Blas
variable {R : Type} [CRing R]

/-- C := alpha·A·B + beta·C on the logical contents; every address outside the image of C keeps its value -/
structure GemmSpec (alpha beta : R) (a b c : Mat) (mem mem' : Mem R) : Prop where
  elems : ∀ i j : Int, 0 ≤ i → i < c.n0 → 0 ≤ j → j < c.n1 →
    c.load mem' i j = alpha * sumZ a.n1 (fun l => a.load mem i l * b.load mem l j) + beta * c.load mem i j
  frame : ∀ addr : Int, (¬ ∃ i j : Int, 0 ≤ i ∧ i < c.n0 ∧ 0 ≤ j ∧ j < c.n1 ∧ addr = c.addr i j) → mem' addr = mem addr

/-- a logical matrix: element (i, l) is `cjIf cj (mem (base + i*sr + l*sc))` -/
structure LMat where
  base : Int
  sr : Int
  sc : Int
  cj : Bool

def Mat.lm (m : Mat) : LMat := ⟨m.base, m.s0, m.s1, m.cj⟩
def Mat.lmT (m : Mat) : LMat := ⟨m.base, m.s1, m.s0, m.cj⟩

def LMat.addr (M : LMat) (i l : Int) : Int := M.base + i * M.sr + l * M.sc

def LMat.elem (M : LMat) (mem : Mem R) (i l : Int) : R := cjIf M.cj (mem (M.addr i l))

theorem Mat.lmT_addr (m : Mat) (i j : Int) : m.lmT.addr j i = m.addr i j := Int.add_right_comm _ _ _

theorem Mat.lmT_elem (m : Mat) (mem : Mem R) (i j : Int) : m.lmT.elem mem j i = m.load mem i j :=
  congrArg (fun x => cjIf m.cj (mem x)) (m.lmT_addr i j)

theorem Mat.load_plain {m : Mat} (h : m.cj = false) (mem : Mem R) (i j : Int) : m.load mem i j = mem (m.addr i j) := by
  unfold Mat.load
  rw [h]
  rfl

/-- op(P), for the flag `t` and the column-major operand (p, ld), IS the rows×cols logical matrix M:
    same addresses (a stride is irrelevant along a dimension of extent ≤ 1), same conjugation -/
def OpIs (t : Char) (p ld rows cols : Int) (M : LMat) : Prop :=
  (rows ≤ 0 ∨ cols ≤ 0 ∨ p = M.base) ∧
  ((t = 'N' ∧ M.cj = false ∧ (rows ≤ 1 ∨ M.sr = 1) ∧ (cols ≤ 1 ∨ M.sc = ld)) ∨
   (t = 'T' ∧ M.cj = false ∧ (cols ≤ 1 ∨ M.sc = 1) ∧ (rows ≤ 1 ∨ M.sr = ld)) ∨
   (t = 'C' ∧ M.cj = true ∧ (cols ≤ 1 ∨ M.sc = 1) ∧ (rows ≤ 1 ∨ M.sr = ld)))

theorem mul_of_le_one' {i s ld rows : Int} (hi0 : 0 ≤ i) (hi : i < rows) (h : rows ≤ 1 ∨ s = ld) : i * s = i * ld := by
  rcases h with h | h
  · rw [show i = 0 by omega, Int.zero_mul, Int.zero_mul]
  · subst h; rfl

theorem mul_of_le_one {i s rows : Int} (hi0 : 0 ≤ i) (hi : i < rows) (h : rows ≤ 1 ∨ s = 1) : i * s = i :=
  (mul_of_le_one' hi0 hi h).trans (Int.mul_one i)

section
variable {b sr sc ld rows cols i j : Int} (hi0 : 0 ≤ i) (hi : i < rows) (hj0 : 0 ≤ j) (hj : j < cols)
include hi0 hi hj0 hj

/-- the pointer of a block that has an element is the base of the matrix -/
theorem base_of_mem {p : Int} (h : rows ≤ 0 ∨ cols ≤ 0 ∨ p = b) : p = b := by
  rcases h with h | h | h <;> first | omega | exact h

/-- element (i, j) of a matrix whose rows are contiguous, in the column-major block with leading dimension `ld` -/
theorem addr_colMajor (h1 : rows ≤ 1 ∨ sr = 1) (h2 : cols ≤ 1 ∨ sc = ld) : b + i * sr + j * sc = b + i + j * ld := by
  rw [mul_of_le_one hi0 hi h1, mul_of_le_one' hj0 hj h2]

/-- element (i, j) of a matrix whose columns are contiguous: cell (j, i) of the block -/
theorem addr_rowMajor (h1 : cols ≤ 1 ∨ sc = 1) (h2 : rows ≤ 1 ∨ sr = ld) : b + i * sr + j * sc = b + j + i * ld := by
  rw [mul_of_le_one hj0 hj h1, mul_of_le_one' hi0 hi h2, Int.add_right_comm]

end

theorem opIs_elem {t : Char} {p ld rows cols : Int} {M : LMat} (h : OpIs t p ld rows cols M) (mem : Mem R)
    {i l : Int} (hi0 : 0 ≤ i) (hi : i < rows) (hl0 : 0 ≤ l) (hl : l < cols) :
    opElem t p ld mem i l = M.elem mem i l := by
  obtain ⟨hb, hc⟩ := h
  cases base_of_mem hi0 hi hl0 hl hb
  unfold opElem LMat.elem LMat.addr
  rcases hc with ⟨ht, hcj, h1, h2⟩ | ⟨ht, hcj, h1, h2⟩ | ⟨ht, hcj, h1, h2⟩ <;> subst ht
  · rw [if_pos rfl, addr_colMajor hi0 hi hl0 hl h1 h2, hcj]
    rfl
  · rw [if_neg (by decide), if_pos rfl, addr_rowMajor hi0 hi hl0 hl h1 h2, hcj]
    rfl
  · rw [if_neg (by decide), if_neg (by decide), addr_rowMajor hi0 hi hl0 hl h1 h2, hcj]
    rfl

/-- the output block (x, ld) of a call IS the rows×cols logical (non-conjugated) matrix M -/
def OutIs (x ld rows cols : Int) (M : LMat) : Prop :=
  (rows ≤ 0 ∨ cols ≤ 0 ∨ x = M.base) ∧ M.cj = false ∧ (rows ≤ 1 ∨ M.sr = 1) ∧ (cols ≤ 1 ∨ M.sc = ld)

theorem outIs_addr {x ld rows cols : Int} {M : LMat} (h : OutIs x ld rows cols M)
    {i j : Int} (hi0 : 0 ≤ i) (hi : i < rows) (hj0 : 0 ≤ j) (hj : j < cols) :
    M.addr i j = x + i + j * ld :=
  base_of_mem hi0 hi hj0 hj h.1 ▸ addr_colMajor hi0 hi hj0 hj h.2.2.1 h.2.2.2

theorem OutIs.cmIndex_addr {x ld rows cols : Int} {M : LMat} (h : OutIs x ld rows cols M) (hld : rows ≤ ld)
    {i j : Int} (hi0 : 0 ≤ i) (hi : i < rows) (hj0 : 0 ≤ j) (hj : j < cols) :
    cmIndex x ld rows cols (M.addr i j) = some (i, j) := by
  rw [outIs_addr h hi0 hi hj0 hj]
  exact cmIndex_hit hi0 hi hj0 hj hld

theorem OutIs.of_cmIndex {x ld rows cols : Int} {M : LMat} (h : OutIs x ld rows cols M) {addr i j : Int}
    (hc : cmIndex x ld rows cols addr = some (i, j)) : addr = M.addr i j ∧ 0 ≤ i ∧ i < rows ∧ 0 ≤ j ∧ j < cols := by
  obtain ⟨hadr, hi0, hi, hj0, hj⟩ := cmIndex_some hc
  exact ⟨hadr.trans (outIs_addr h hi0 hi hj0 hj).symm, hi0, hi, hj0, hj⟩

/-- THE CERTIFICATE: `cl` is an xGEMM call, in one of two orientations.  Orientation 1: the call computes Cᵀ = Bᵀ·Aᵀ in
    column-major terms (C is read as the transpose of the m×n block); orientation 2: it computes C = A·B directly. -/
def GemmOK (cl : Call R) (alpha beta : R) (a b c : Mat) : Prop :=
  ∃ g, cl = .gemm g ∧ g.illegal = none ∧ g.alpha = alpha ∧ g.beta = beta ∧ g.k = a.n1 ∧
  ( (g.m = c.n1 ∧ g.n = c.n0 ∧ OutIs g.c g.ldc g.m g.n c.lmT ∧
       OpIs g.ta g.a g.lda g.m g.k b.lmT ∧ OpIs g.tb g.b g.ldb g.k g.n a.lmT)
  ∨ (g.m = c.n0 ∧ g.n = c.n1 ∧ OutIs g.c g.ldc g.m g.n c.lm ∧
       OpIs g.ta g.a g.lda g.m g.k a.lm ∧ OpIs g.tb g.b g.ldb g.k g.n b.lm) )

/-- the reference legality of an xGEMM call, as a conjunction -/
def GemmCall.Legal {R : Type} (g : GemmCall R) : Prop :=
  isTrans g.ta = true ∧ isTrans g.tb = true ∧ 0 ≤ g.m ∧ 0 ≤ g.n ∧ 0 ≤ g.k ∧
  (1 ≤ g.lda ∧ (if g.ta = 'N' then g.m else g.k) ≤ g.lda) ∧
  (1 ≤ g.ldb ∧ (if g.tb = 'N' then g.k else g.n) ≤ g.ldb) ∧
  (1 ≤ g.ldc ∧ g.m ≤ g.ldc)

theorem maxI_le_iff {a b c : Int} : maxI a b ≤ c ↔ (a ≤ c ∧ b ≤ c) := by
  unfold maxI; split <;> omega

theorem le_maxI_iff {a b c : Int} : c ≥ maxI a b ↔ (a ≤ c ∧ b ≤ c) := maxI_le_iff

theorem maxI_lt {a b c : Int} : c < maxI a b ↔ (c < a ∨ c < b) := by
  unfold maxI; split <;> omega

/-- a chain of parameter checks reports nothing exactly when every check passes -/
theorem ite_some_eq_none {c : Prop} [Decidable c] {n : Nat} {r : Option Nat} : (if c then some n else r) = none ↔ ¬ c ∧ r = none := by
  by_cases h : c <;> simp [h]

omit [CRing R] in
theorem gemm_illegal_none_iff (g : GemmCall R) : g.illegal = none ↔ g.Legal := by
  unfold GemmCall.illegal GemmCall.illegalL GemmCall.Legal
  simp only [ite_some_eq_none, Bool.false_eq_true, if_false, Bool.not_eq_true', Bool.not_eq_false, Int.not_lt, maxI_le_iff, and_true, and_assoc]

theorem gemm_exec_hit {g : GemmCall R} (h : g.illegal = none) (mem : Mem R) {addr i j : Int}
    (hc : cmIndex g.c g.ldc g.m g.n addr = some (i, j)) :
    g.exec mem addr = g.alpha * sumZ g.k (fun l => opElem g.ta g.a g.lda mem i l * opElem g.tb g.b g.ldb mem l j) + g.beta * mem addr := by
  unfold GemmCall.exec GemmCall.execL
  unfold GemmCall.illegal at h
  simp [h, hc]

theorem gemm_exec_miss {g : GemmCall R} (mem : Mem R) {addr : Int}
    (hc : cmIndex g.c g.ldc g.m g.n addr = none) : g.exec mem addr = mem addr := by
  unfold GemmCall.exec GemmCall.execL
  split
  · rfl
  · simp [hc]

theorem OpIs.isTrans {t : Char} {p ld rows cols : Int} {M : LMat} (h : OpIs t p ld rows cols M) : isTrans t = true := by
  rcases h.2 with ⟨ht, _⟩ | ⟨ht, _⟩ | ⟨ht, _⟩ <;> subst ht <;> decide

theorem OpIs.outIs {x ld rows cols : Int} {M : LMat} (h : OpIs 'N' x ld rows cols M) : OutIs x ld rows cols M := by
  rcases h.2 with ⟨_, h2⟩ | ⟨ht, _⟩ | ⟨ht, _⟩
  · exact ⟨h.1, h2⟩
  · exact absurd ht (by decide)
  · exact absurd ht (by decide)

/-- What a leaf of a dispatch chain has to show of an operand it passes: op(P) for the flag, pointer and leading dimension of
    the call is the intended logical matrix, and the leading dimension passes the parameter check.  An operand with a unit
    stride along its rows is a column-major block read with 'N'; one with a unit stride along its columns is the transpose of
    such a block, read with 'T' (or 'C' when it is conjugated).  The leading dimension `legalLd stride n` is the other stride
    unless the block has a single column, where the stride carries no information and may be smaller than the number of rows. -/
structure Operand (t : Char) (p ld rows cols : Int) (M : LMat) : Prop where
  is : OpIs t p ld rows cols M
  one_le : 1 ≤ ld
  le : (if t = 'N' then rows else cols) ≤ ld
  rows : 0 ≤ rows
  cols : 0 ≤ cols

theorem Operand.le_N {x ld rows cols : Int} {M : LMat} (h : Operand 'N' x ld rows cols M) : rows ≤ ld :=
  (if_pos rfl : (if 'N' = 'N' then rows else cols) = rows) ▸ h.le

section
variable {M : LMat} {rows cols : Int} (hr : 0 ≤ rows) (hc : 0 ≤ cols)
include hr hc

theorem Operand.colMajor' {ld : Int} (hcj : M.cj = false) (h1 : M.sr = 1) (hld : cols ≤ 1 ∨ M.sc = ld) (h1ld : 1 ≤ ld)
    (hle : rows ≤ ld) : Operand 'N' M.base ld rows cols M :=
  ⟨⟨.inr (.inr rfl), .inl ⟨rfl, hcj, .inr h1, hld⟩⟩, h1ld, (if_pos rfl).symm ▸ hle, hr, hc⟩

theorem Operand.colMajor (hcj : M.cj = false) (h1 : M.sr = 1) (hs : 1 ≤ M.sc) (hfit : rows ≤ M.sc ∨ cols ≤ 1) :
    Operand 'N' M.base (legalLd M.sc rows) rows cols M :=
  Operand.colMajor' hr hc hcj h1 (legalLd_fit hfit) (one_le_legalLd rows hs) (le_legalLd M.sc rows)

theorem Operand.rowMajor {t : Char}
    (ht : (t = 'T' ∧ M.cj = false) ∨ (t = 'C' ∧ M.cj = true)) (h1 : M.sc = 1)
    (hs : 1 ≤ M.sr) (hfit : cols ≤ M.sr ∨ rows ≤ 1) : Operand t M.base (legalLd M.sr cols) rows cols M := by
  have hld := legalLd_fit hfit
  rcases ht with ⟨rfl, hcj⟩ | ⟨rfl, hcj⟩
  · exact ⟨⟨.inr (.inr rfl), .inr (.inl ⟨rfl, hcj, .inr h1, hld⟩)⟩, one_le_legalLd cols hs, le_legalLd M.sr cols, hr, hc⟩
  · exact ⟨⟨.inr (.inr rfl), .inr (.inr ⟨rfl, hcj, .inr h1, hld⟩)⟩, one_le_legalLd cols hs, le_legalLd M.sr cols, hr, hc⟩

end

section
variable {m : Mat} {rows cols : Int} (hl : m.Lin)
include hl

/-- column-major `m` read with 'N' -/
theorem Operand.colN (h0 : m.s0 = 1) (hcj : m.cj = false) (e0 : m.n0 = rows) (e1 : m.n1 = cols) :
    Operand 'N' m.base (legalLd m.s1 rows) rows cols m.lm := by
  subst e0 e1
  exact Operand.colMajor (M := m.lm) hl.n0 hl.n1 hcj h0 hl.s1 (hl.col h0)

/-- column-major `m` read with 'T' / 'C': the transpose of `m` -/
theorem Operand.colT {t : Char} (h0 : m.s0 = 1) (ht : (t = 'T' ∧ m.cj = false) ∨ (t = 'C' ∧ m.cj = true))
    (e0 : m.n0 = cols) (e1 : m.n1 = rows) : Operand t m.base (legalLd m.s1 cols) rows cols m.lmT := by
  subst e0 e1
  exact Operand.rowMajor (M := m.lmT) hl.n1 hl.n0 ht h0 hl.s1 (hl.col h0)

/-- row-major `m` read with 'N': the transpose of `m` -/
theorem Operand.rowN (h1 : m.s1 = 1) (hcj : m.cj = false) (e0 : m.n0 = cols) (e1 : m.n1 = rows) :
    Operand 'N' m.base (legalLd m.s0 rows) rows cols m.lmT := by
  subst e0 e1
  exact Operand.colMajor (M := m.lmT) hl.n1 hl.n0 hcj h1 hl.s0 (hl.row h1)

/-- row-major `m` read with 'T' / 'C' -/
theorem Operand.rowT {t : Char} (h1 : m.s1 = 1) (ht : (t = 'T' ∧ m.cj = false) ∨ (t = 'C' ∧ m.cj = true))
    (e0 : m.n0 = rows) (e1 : m.n1 = cols) : Operand t m.base (legalLd m.s0 cols) rows cols m.lm := by
  subst e0 e1
  exact Operand.rowMajor (M := m.lm) hl.n0 hl.n1 ht h1 hl.s0 (hl.row h1)

end

omit [CRing R] in
theorem legal_of_operands {g : GemmCall R} {A B C : LMat} (hA : Operand g.ta g.a g.lda g.m g.k A)
    (hB : Operand g.tb g.b g.ldb g.k g.n B) (hC : Operand 'N' g.c g.ldc g.m g.n C) : g.illegal = none :=
  (gemm_illegal_none_iff g).mpr ⟨hA.is.isTrans, hB.is.isTrans, hA.rows, hB.cols, hA.cols, ⟨hA.one_le, hA.le⟩, ⟨hB.one_le, hB.le⟩, hC.one_le, hC.le_N⟩

omit [CRing R] in
/-- the call computes C = A·B on the column-major blocks it is given -/
theorem GemmOK.direct {g : GemmCall R} {a b c : Mat} (hm : g.m = c.n0) (hn : g.n = c.n1) (hk : g.k = a.n1)
    (hA : Operand g.ta g.a g.lda g.m g.k a.lm) (hB : Operand g.tb g.b g.ldb g.k g.n b.lm)
    (hC : Operand 'N' g.c g.ldc g.m g.n c.lm) : GemmOK (.gemm g) g.alpha g.beta a b c :=
  ⟨g, rfl, legal_of_operands hA hB hC, rfl, rfl, hk, .inr ⟨hm, hn, hC.is.outIs, hA.is, hB.is⟩⟩

omit [CRing R] in
/-- the call computes Cᵀ = Bᵀ·Aᵀ: its first operand is Bᵀ, its second Aᵀ, its output block Cᵀ -/
theorem GemmOK.transposed {g : GemmCall R} {a b c : Mat} (hm : g.m = c.n1) (hn : g.n = c.n0) (hk : g.k = a.n1)
    (hB : Operand g.ta g.a g.lda g.m g.k b.lmT) (hA : Operand g.tb g.b g.ldb g.k g.n a.lmT)
    (hC : Operand 'N' g.c g.ldc g.m g.n c.lmT) : GemmOK (.gemm g) g.alpha g.beta a b c :=
  ⟨g, rfl, legal_of_operands hB hA hC, rfl, rfl, hk, .inl ⟨hm, hn, hC.is.outIs, hB.is, hA.is⟩⟩

/-- a legal call whose operands are the logical matrices A, B and whose output block is C computes
    C := alpha·A·B + beta·C and changes nothing else -/
theorem gemm_block {g : GemmCall R} (hleg : g.illegal = none) {A B C : LMat} (hC : OutIs g.c g.ldc g.m g.n C)
    (hA : OpIs g.ta g.a g.lda g.m g.k A) (hB : OpIs g.tb g.b g.ldb g.k g.n B) (mem : Mem R) :
    (∀ i j : Int, 0 ≤ i → i < g.m → 0 ≤ j → j < g.n →
      g.exec mem (C.addr i j) = g.alpha * sumZ g.k (fun l => A.elem mem i l * B.elem mem l j) + g.beta * mem (C.addr i j)) ∧
    (∀ addr : Int, (¬ ∃ i j : Int, 0 ≤ i ∧ i < g.m ∧ 0 ≤ j ∧ j < g.n ∧ addr = C.addr i j) → g.exec mem addr = mem addr) := by
  have hld : g.m ≤ g.ldc := ((gemm_illegal_none_iff g).mp hleg).2.2.2.2.2.2.2.2
  constructor
  · intro i j hi0 hi hj0 hj
    rw [gemm_exec_hit hleg mem (hC.cmIndex_addr hld hi0 hi hj0 hj)]
    congr 2
    apply sumZ_congr
    intro l hl0 hl
    rw [opIs_elem hA mem hi0 hi hl0 hl, opIs_elem hB mem hl0 hl hj0 hj]
  · intro addr hno
    cases hci : cmIndex g.c g.ldc g.m g.n addr with
    | none => exact gemm_exec_miss mem hci
    | some p =>
      obtain ⟨hadr, hi0, hi, hj0, hj⟩ := hC.of_cmIndex hci
      exact absurd ⟨p.1, p.2, hi0, hi, hj0, hj, hadr⟩ hno

theorem gemmOK_sound {cl : Call R} {alpha beta : R} {a b c : Mat} (hc : c.cj = false) (h : GemmOK cl alpha beta a b c) :
    ∃ g, cl = .gemm g ∧ g.Legal ∧ ∀ mem : Mem R, GemmSpec alpha beta a b c mem (g.exec mem) := by
  obtain ⟨g, rfl, hleg, rfl, rfl, hk, hor⟩ := h
  refine ⟨g, rfl, (gemm_illegal_none_iff g).mp hleg, fun mem => ?_⟩
  rcases hor with ⟨hm, hn, hC, hP, hQ⟩ | ⟨hm, hn, hC, hP, hQ⟩
  all_goals obtain ⟨he, hf⟩ := gemm_block hleg hC hP hQ mem
  · -- the block is Cᵀ: C(i,j) is its cell (j,i), and (Bᵀ·Aᵀ)(j,i) = (A·B)(i,j)
    refine ⟨fun i j hi0 hi hj0 hj => ?_, fun addr hno => hf addr fun ⟨j, i, hj0, hj, hi0, hi, e⟩ =>
      hno ⟨i, j, hi0, hn ▸ hi, hj0, hm ▸ hj, e.trans (c.lmT_addr i j)⟩⟩
    rw [Mat.load_plain hc, Mat.load_plain hc, ← c.lmT_addr, he j i hj0 (hm ▸ hj) hi0 (hn ▸ hi), hk]
    congr 2
    apply sumZ_congr
    intro l _ _
    rw [Mat.lmT_elem, Mat.lmT_elem, CRing.mul_comm]
  · -- the block is C
    refine ⟨fun i j hi0 hi hj0 hj => ?_, fun addr hno => hf addr fun ⟨i, j, hi0, hi, hj0, hj, e⟩ =>
      hno ⟨i, j, hi0, hm ▸ hi, hj0, hn ▸ hj, e⟩⟩
    rw [Mat.load_plain hc, Mat.load_plain hc]
    exact (he i j hi0 (hm ▸ hi) hj0 (hn ▸ hj)).trans (by rw [hk]; rfl)

end Multi.Blas
