/-
  C05 stated directly about the regenerated assignment code (see CodeRefines.lean)
-/
import MultiProofs.C05
import MultiProofs.GenTieStore

namespace Multi.CodeRefines
open Multi Multi.Gen

variable {α : Type}

/-- **C05 on the regenerated `subarray::operator=`** (copy assignment from a view of the same type; the other overloads are
    the same function by `GenTieStore.assignment_is_the_code`): exactly the viewed elements are written, nothing else -/
theorem code_assign_exact (b : Int) (d : Dim) (sub : Layout) (src : View) (m : Mem α)
    (hd : Layout.WF (d :: sub)) (hs : src.lay.WF) (hext : (View.mk b (d :: sub)).exts = src.exts)
    (hinj : (View.mk b (d :: sub)).Injective) (hdis : (View.mk b (d :: sub)).Disjoint src) :
    ∃ m', SV_assign_copy ⟨b, d :: sub⟩ src m false = some m' ∧
      (∀ idx, InBox (View.mk b (d :: sub)).exts idx → m' ((View.mk b (d :: sub)).addr idx) = m (src.addr idx)) ∧
      (∀ a, ¬ (View.mk b (d :: sub)).InImage a → m' a = m a) := by
  rw [(GenTieStore.SV_assign_copy_tie b d sub src m).1]
  exact C05.assign_exact _ src m hd hs (List.cons_ne_nil d sub) hext hinj hdis

end Multi.CodeRefines
