/-
  MultiProofs.OwnView — the element-wise copy loops walk a view in canonical order (`elemAddrs_eq`, from the iterator theorem
  `elemit_kth` of ElemOrder), so a copy between two non-empty views is `copyAddrs` along their canonical address lists (`copyElems_eq`);
  construction of an array from a view (`viewCtor_outcome`).  Helper lemmas for C04 / C06.
-/
import MultiProofs.OwnScatter
import MultiProofs.C02

namespace Multi
namespace Own
variable {α : Type}
open C02

theorem boxIndices_nil_of_zero {xs : List Ext} (hok : ExtsOK xs) (hn : nElems xs = 0) : boxIndices xs = [] := by
  apply List.eq_nil_of_length_eq_zero
  rw [boxIndices_length_eq _ hok, hn]; rfl

theorem go_eq_addrs : ∀ (n : Nat) (it : ElemIt), elemAddrs.go n it = ElemIt.addrs n it
  | 0, _ => rfl
  | n + 1, it => by
    simp only [elemAddrs.go, ElemIt.addrs, go_eq_addrs n]
    cases it.inc with
    | none => rfl
    | some it' =>
      show (ElemIt.addrs n it').map _ = (ElemIt.addrs n it').bind _
      cases ElemIt.addrs n it' <;> rfl

/-- **the element-wise copy loops visit the elements of a view in canonical order** -/
theorem elemAddrs_eq (v : View) (hwf : v.lay.WF) :
    elemAddrs v (nElems v.exts).toNat = some ((boxIndices v.exts).map v.addr) := by
  obtain ⟨b, _, hb, _, _, _, hk⟩ := elemit_kth v hwf
  unfold elemAddrs
  rw [hb, ← boxIndices_length_eq v.exts hwf.exts_le]
  exact (go_eq_addrs _ b).trans hk

/-- between two non-empty views whose canonical address lists are `S x` resp. `D x` for `x` running through a list `L`, the element-wise
    copy is `copyAddrs` along these lists -/
theorem copyElems_eq {ι : Type} (h : Heap α) (sb db : Option BlockId) (sv dv : View) (hsv : NonEmpty sv) (hdv : NonEmpty dv)
    (L : List ι) (S D : ι → Int) (hSv : (boxIndices sv.exts).map sv.addr = L.map S) (hDv : (boxIndices dv.exts).map dv.addr = L.map D) :
    copyElems h sb sv db dv = h.copyAddrs sb (L.map S) db (L.map D) := by
  have hn : (nElems dv.exts).toNat = (nElems sv.exts).toNat := by
    rw [← boxIndices_length_eq dv.exts hdv.wf.exts_le, ← boxIndices_length_eq sv.exts hsv.wf.exts_le,
      ← List.length_map (f := dv.addr), ← List.length_map (f := sv.addr), hSv, hDv, List.length_map, List.length_map]
  unfold copyElems
  rw [nonEmpty_not_isEmpty hdv]
  simp only [Bool.false_eq_true, if_false]
  rw [(C01.shape_functions_agree sv hsv.wf).2.1, elemAddrs_eq sv hsv.wf, ← hn, elemAddrs_eq dv hdv.wf, hSv, hDv]

/-- the cells a view designates, in canonical order -/
def viewCells (scs : List (Cell α)) (v : View) : List (Cell α) :=
  (boxIndices v.exts).map fun idx => scs[(v.addr idx).toNat]?.getD none

theorem viewCells_nil (scs : List (Cell α)) {v : View} (hok : ExtsOK v.exts) (h0 : nElems v.exts = 0) : viewCells scs v = [] := by
  unfold viewCells; rw [boxIndices_nil_of_zero hok h0]; rfl

/-- **construction from a view** (`array(view)`, `+view`, `view.decay()`), with or without elements: a fresh block holding the elements
    the view designates, in canonical order, with the view's extensions; nothing else is touched.  The view's addresses lie inside the
    live source block. -/
theorem viewCtor_outcome (h : Heap α) (sb : Option BlockId) (scs : List (Cell α)) (v : View) (hwf : v.lay.WF)
    (hsrc : nElems v.exts ≠ 0 → ∃ s, sb = some s ∧ Live h s scs)
    (hin : ∀ idx ∈ boxIndices v.exts, 0 ≤ v.addr idx ∧ (v.addr idx).toNat < scs.length) :
    Outcome h (viewCtor h sb v).1 (fun _ => False) (viewCtor h sb v).2 ⟨collapse v.exts, viewCells scs v⟩ := by
  have hok : ExtsOK v.exts := hwf.exts_le
  have hblen := boxIndices_length_eq _ hok
  unfold viewCtor
  simp only [ofExts_numElements hok, elemAddrs_eq v hwf]
  apply outcome_fresh hok
  · simp [viewCells, hblen]
  · intro h0
    rw [h0, alloc_zero, boxIndices_nil_of_zero hok h0]
    rfl
  · intro hn0
    obtain ⟨s, rfl, hs⟩ := hsrc hn0
    -- the consecutive destination cells are the ranks of the view's index tuples
    have hdst : (List.range (nElems v.exts).toNat).map Int.ofNat
        = (boxIndices v.exts).map fun J => Int.ofNat (rowMajor v.exts J).toNat := by
      rw [← boxIndices_rank v.exts hok, List.map_map]; rfl
    rw [alloc_snd h hn0, hdst, copyAddrs_live ((alloc_frame h _).1 _ _ hs) (alloc_live h hn0) (fun e => not_live_fresh h scs (e ▸ hs))
        (boxIndices v.exts) v.addr (fun J => Int.ofNat (rowMajor v.exts J).toNat) hin
        (fun J hJ => ⟨Int.natCast_nonneg _, List.length_replicate ▸ rank_lt ((mem_boxIndices _ _).mp hJ)⟩),
      setMany_rank hok _ List.length_replicate _ (boxIndices_nodup _) (fun J hJ => (mem_boxIndices _ _).mp hJ)
        (fun J => (Int.ofNat (rowMajor v.exts J).toNat).toNat) (fun _ _ => rfl) (fun J => scs[(v.addr J).toNat]?.getD none)
        (fun _ => True) (fun idx hidx => ⟨fun _ => trivial, fun _ => (mem_boxIndices _ _).mpr hidx⟩) none]
    simp only [if_true]
    rfl

end Own
end Multi
