/-
  C03 — Standard algorithms on array / view ranges act as on independent values.

  What is proved here is the contract under which ANY sequence algorithm is correct on the library's ranges: the proxy
  iterator / proxy reference interface (MultiProofs/SeqSpec.lean: read, write, assign, swap at integer positions, the
  next step depending on the values read) refines a plain sequence of independent values.  The libstdc++ algorithms
  themselves are NOT verified: that each of the 20 listed algorithms is a program over this interface is in the trusted
  base and is what the differential run (harness/algos.cpp) validates.

  The `algo_<name>_on_views` / `algo_<name>_on_elements` corollaries (reverse, fill, copy_n, copy, move, copy_backward,
  swap_ranges, transform, find / find_if, equal, accumulate, is_sorted, lexicographical_compare, remove / remove_if,
  partition, unique, sort on at most 16 elements) rest on the HAND TRANSCRIPTIONS of the libstdc++ loops in
  MultiProofs/AlgoProgs.lean (trusted, see there): what is proved is the list-level meaning of each program
  (AlgoLemmas.lean) and, through `proxy_refines_seq` / `elements_refines_seq`, its in-place effect on any well-formed
  injective view.  sort on more than 16 elements, stable_sort, partial_sort, nth_element, rotate are not transcribed: they
  remain validated by the differential run only (their correctness on views follows from `proxy_refines_seq` as soon as
  one grants that they are interface programs).
-/
import MultiProofs.SeqLemmas
import MultiProofs.AlgoLemmas
import MultiProofs.AlgoViews

namespace Multi
namespace C03

variable {α : Type}

/-- **rows**: running an interface program on memory through `begin()/end()` of a well-formed injective view and then
    reading off the rows = reading off the rows and running the program on the list of independent values; the returned
    position is the same; memory outside the view is unchanged -/
theorem proxy_refines_seq (v : View) (hwf : v.lay.WF) (hne : v.lay ≠ []) (hinj : v.Injective)
    (p : Prog (List α)) (hp : p.Typed (boxIndices v.exts.tail).length)
    (m : Mem α) (xs' : List (List α)) (pos : Int)
    (h : p.runList (rowsVal v m) = some (xs', pos)) :
    ∃ m', p.runRows v m = some (m', pos) ∧ rowsVal v m' = xs' ∧ ∀ a, ¬ v.InImage a → m' a = m a :=
  rows_on_views (P := (· = xs')) v hwf hne hinj m hp ⟨xs', h, rfl⟩

/-- **elements()**: the same through the flat elements range -/
theorem elements_refines_seq (v : View) (hwf : v.lay.WF) (hne : v.lay ≠ []) (hinj : v.Injective)
    (p : Prog α) (m : Mem α) (xs' : List α) (pos : Int)
    (h : p.runList (elemsVal v m) = some (xs', pos)) :
    ∃ m', p.runElems v m = some (m', pos) ∧ elemsVal v m' = xs' ∧ ∀ a, ¬ v.InImage a → m' a = m a :=
  elems_on_views (P := (· = xs')) v hwf hne hinj m ⟨xs', h, rfl⟩

/-- iterator arithmetic of the proxy iterators is integer arithmetic on positions (C02.arrit_laws, restated for `begin() + i`) -/
theorem positions_are_integers (v : View) (hs : v.begin'.stride ≠ 0) (i j : Int) :
    (v.begin'.add i).inc = v.begin'.add (i + 1) ∧ (v.begin'.add i).dec = v.begin'.add (i - 1) ∧
    (v.begin'.add i).add j = v.begin'.add (i + j) ∧ (v.begin'.add i).sub' j = v.begin'.add (i - j) ∧
    (v.begin'.add i).diff (v.begin'.add j) = i - j ∧
    ((v.begin'.add i).lt (v.begin'.add j) = decide (i < j)) ∧ ((v.begin'.add i).eq (v.begin'.add j) = decide (i = j)) := by
  have hsub : ∀ j, (v.begin'.add i).sub' j = v.begin'.add (i - j) := fun j => by
    apply ArrIt.ext_eq <;> simp [ArrIt.add, ArrIt.sub']
    rw [Int.mul_sub]; omega
  refine ⟨?_, ?_, arrit_add_add _ i j, hsub j, arrit_diff_add2 _ i j hs, ?_, ?_⟩
  · rw [(arrit_inc_eq_add _).1, arrit_add_add]
  · rw [(arrit_inc_eq_add _).2, hsub]
  · simp only [ArrIt.lt]; rw [arrit_diff_add2 _ j i hs]
    exact decide_eq_decide.mpr (by omega)
  · have := (C02.arrit_laws v.begin' i j hs).2.2.2.2.2.2.2.2.2.2
    rw [Bool.eq_iff_iff, this]; simp

/-- sanity: `std::reverse` written against the interface reverses a list of independent values … -/
theorem revProg_list {ρ : Type} (xs : List ρ) :
    (revProg ρ xs.length 0 xs.length).runList xs = some (xs.reverse, 0) := by
  simpa using revProg_run xs.length [] xs [] 0 xs.length rfl rfl (Nat.le_refl _)

/-- … hence, by `proxy_refines_seq`, it reverses the rows of any well-formed injective view in place and touches nothing else -/
theorem revProg_rows (v : View) (hwf : v.lay.WF) (hne : v.lay ≠ []) (hinj : v.Injective) (m : Mem α) :
    ∃ m', (revProg (List α) (rowsVal v m).length 0 (rowsVal v m).length).runRows v m = some (m', 0) ∧
      rowsVal v m' = (rowsVal v m).reverse ∧ ∀ a, ¬ v.InImage a → m' a = m a :=
  proxy_refines_seq v hwf hne hinj _ (revProg_typed _ _ _ _) m _ 0 (revProg_list (rowsVal v m))

/-! The transcribed libstdc++ loops (AlgoProgs.lean) on the rows of a view.  Positions are offsets from `begin()`;
`N = (rowsVal v m).length` is the number of rows. -/

/-- `std::reverse(v.begin(), v.end())` (restatement of `revProg_rows`) -/
theorem algo_reverse_on_views (v : View) (hwf : v.lay.WF) (hne : v.lay ≠ []) (hinj : v.Injective) (m : Mem α) :
    ∃ m', (revProg (List α) (rowsVal v m).length 0 (rowsVal v m).length).runRows v m = some (m', 0) ∧
      rowsVal v m' = (rowsVal v m).reverse ∧ ∀ a, ¬ v.InImage a → m' a = m a :=
  revProg_rows v hwf hne hinj m

/-- `std::fill(v.begin(), v.end(), x)` with `x` a saved row -/
theorem algo_fill_on_views (v : View) (hwf : v.lay.WF) (hne : v.lay ≠ []) (hinj : v.Injective) (m : Mem α)
    (x : List α) (hx : x.length = (boxIndices v.exts.tail).length) :
    ∃ m', (fillProg x (rowsVal v m).length 0).runRows v m = some (m', ((rowsVal v m).length : Int)) ∧
      rowsVal v m' = List.replicate (rowsVal v m).length x ∧ ∀ a, ¬ v.InImage a → m' a = m a :=
  proxy_refines_seq v hwf hne hinj _ (fillProg_typed _ x hx _ _) m _ _ (fillProg_all x (rowsVal v m))

/-- `std::copy_n(vals.begin(), N, v.begin())` from a sequence of saved rows (also `v = {row₀, row₁, …}`) -/
theorem algo_copy_n_on_views (v : View) (hwf : v.lay.WF) (hne : v.lay ≠ []) (hinj : v.Injective) (m : Mem α)
    (vals : List (List α)) (hlen : vals.length = (rowsVal v m).length)
    (hrow : ∀ r ∈ vals, r.length = (boxIndices v.exts.tail).length) :
    ∃ m', (storeProg vals 0).runRows v m = some (m', (vals.length : Int)) ∧
      rowsVal v m' = vals ∧ ∀ a, ¬ v.InImage a → m' a = m a :=
  proxy_refines_seq v hwf hne hinj _ (storeProg_typed _ vals hrow _) m _ _ (storeProg_all vals (rowsVal v m) hlen.symm)

/-- `std::copy(v.begin() + s, v.begin() + s + n, v.begin() + d)` between two blocks of rows of one view -/
theorem algo_copy_on_views (v : View) (hwf : v.lay.WF) (hne : v.lay ≠ []) (hinj : v.Injective) (m : Mem α)
    (n s d : Nat) (hs : s + n ≤ (rowsVal v m).length) (hd : d + n ≤ (rowsVal v m).length) (hsafe : d ≤ s ∨ s + n ≤ d) :
    ∃ m', (copyProg n s d).runRows v m = some (m', ((d + n : Nat) : Int)) ∧
      ((rowsVal v m').length = (rowsVal v m).length ∧
        (∀ i, i < n → (rowsVal v m')[d + i]? = (rowsVal v m)[s + i]?) ∧
        (∀ j, (j < d ∨ d + n ≤ j) → (rowsVal v m')[j]? = (rowsVal v m)[j]?)) ∧
      ∀ a, ¬ v.InImage a → m' a = m a :=
  rows_on_views v hwf hne hinj m (copyProg_typed _ _ _ _) (copyProg_list (rowsVal v m) n s d hs hd hsafe)

/-- `std::move(v.begin() + k, v.end(), v.begin())` (rows of trivially movable elements: the same loop as `std::copy`):
    the instance `s = k`, `d = 0`, `n = N − k` of `algo_copy_on_views` -/
theorem algo_move_on_views (v : View) (hwf : v.lay.WF) (hne : v.lay ≠ []) (hinj : v.Injective) (m : Mem α)
    (k : Nat) (hk : k ≤ (rowsVal v m).length) :
    ∃ m', (copyProg ((rowsVal v m).length - k) k 0).runRows v m = some (m', (((rowsVal v m).length - k : Nat) : Int)) ∧
      ((rowsVal v m').length = (rowsVal v m).length ∧
        (∀ i, i < (rowsVal v m).length - k → (rowsVal v m')[i]? = (rowsVal v m)[k + i]?) ∧
        (∀ j, (rowsVal v m).length - k ≤ j → (rowsVal v m')[j]? = (rowsVal v m)[j]?)) ∧
      ∀ a, ¬ v.InImage a → m' a = m a := by
  obtain ⟨m', h1, ⟨h2, h3, h4⟩, h5⟩ := algo_copy_on_views v hwf hne hinj m ((rowsVal v m).length - k) k 0
    (Nat.le_of_eq (Nat.add_sub_cancel' hk)) (Nat.zero_add _ ▸ Nat.sub_le _ k) (Or.inl (Nat.zero_le k))
  simp only [Nat.zero_add] at h1 h3 h4
  exact ⟨m', h1, ⟨h2, h3, fun j hj => h4 j (Or.inr hj)⟩, h5⟩

/-- `std::copy_backward(v.begin() + sEnd − n, v.begin() + sEnd, v.begin() + dEnd)` -/
theorem algo_copy_backward_on_views (v : View) (hwf : v.lay.WF) (hne : v.lay ≠ []) (hinj : v.Injective) (m : Mem α)
    (n sEnd dEnd : Nat) (hs1 : n ≤ sEnd) (hs2 : sEnd ≤ (rowsVal v m).length) (hd1 : n ≤ dEnd)
    (hd2 : dEnd ≤ (rowsVal v m).length) (hsafe : sEnd ≤ dEnd ∨ dEnd + n ≤ sEnd) :
    ∃ m', (copyBackwardProg n sEnd dEnd).runRows v m = some (m', ((dEnd - n : Nat) : Int)) ∧
      ((rowsVal v m').length = (rowsVal v m).length ∧
        (∀ i, i < n → (rowsVal v m')[dEnd - n + i]? = (rowsVal v m)[sEnd - n + i]?) ∧
        (∀ j, (j < dEnd - n ∨ dEnd ≤ j) → (rowsVal v m')[j]? = (rowsVal v m)[j]?)) ∧
      ∀ a, ¬ v.InImage a → m' a = m a :=
  rows_on_views v hwf hne hinj m (copyBackwardProg_typed _ _ _ _)
    (copyBackwardProg_list (rowsVal v m) n sEnd dEnd hs1 hs2 hd1 hd2 hsafe)

/-- `std::swap_ranges(v.begin() + a, v.begin() + a + n, v.begin() + b)` on two disjoint blocks of rows -/
theorem algo_swap_ranges_on_views (v : View) (hwf : v.lay.WF) (hne : v.lay ≠ []) (hinj : v.Injective) (m : Mem α)
    (n a b : Nat) (ha : a + n ≤ (rowsVal v m).length) (hb : b + n ≤ (rowsVal v m).length)
    (hdis : a + n ≤ b ∨ b + n ≤ a) :
    ∃ m', (swapRangesProg n a b).runRows v m = some (m', ((b + n : Nat) : Int)) ∧
      ((rowsVal v m').length = (rowsVal v m).length ∧
        (∀ i, i < n → (rowsVal v m')[a + i]? = (rowsVal v m)[b + i]? ∧ (rowsVal v m')[b + i]? = (rowsVal v m)[a + i]?) ∧
        (∀ j, (j < a ∨ a + n ≤ j) → (j < b ∨ b + n ≤ j) → (rowsVal v m')[j]? = (rowsVal v m)[j]?)) ∧
      ∀ a, ¬ v.InImage a → m' a = m a :=
  rows_on_views v hwf hne hinj m (swapRangesProg_typed _ _ _ _) (swapRangesProg_list (rowsVal v m) n a b ha hb hdis)

/-- `std::transform(v.begin() + s, v.begin() + s + n, v.begin() + d, f)` with `f` mapping rows to rows of the same extents -/
theorem algo_transform_on_views (v : View) (hwf : v.lay.WF) (hne : v.lay ≠ []) (hinj : v.Injective) (m : Mem α)
    (f : List α → List α)
    (hf : ∀ x, x.length = (boxIndices v.exts.tail).length → (f x).length = (boxIndices v.exts.tail).length)
    (n s d : Nat) (hs : s + n ≤ (rowsVal v m).length) (hd : d + n ≤ (rowsVal v m).length) (hsafe : d ≤ s ∨ s + n ≤ d) :
    ∃ m', (transformProg f n s d).runRows v m = some (m', ((d + n : Nat) : Int)) ∧
      ((rowsVal v m').length = (rowsVal v m).length ∧
        (∀ i, i < n → (rowsVal v m')[d + i]? = ((rowsVal v m)[s + i]?).map f) ∧
        (∀ j, (j < d ∨ d + n ≤ j) → (rowsVal v m')[j]? = (rowsVal v m)[j]?)) ∧
      ∀ a, ¬ v.InImage a → m' a = m a :=
  rows_on_views v hwf hne hinj m (transformProg_typed _ f hf _ _ _) (transformProg_list f (rowsVal v m) n s d hs hd hsafe)

/-- `std::transform(v.begin(), v.end(), v.begin(), f)`: in place over the whole view, the rows become `map f` -/
theorem algo_transform_inplace_on_views (v : View) (hwf : v.lay.WF) (hne : v.lay ≠ []) (hinj : v.Injective) (m : Mem α)
    (f : List α → List α)
    (hf : ∀ x, x.length = (boxIndices v.exts.tail).length → (f x).length = (boxIndices v.exts.tail).length) :
    ∃ m', (transformProg f (rowsVal v m).length 0 0).runRows v m = some (m', ((rowsVal v m).length : Int)) ∧
      rowsVal v m' = (rowsVal v m).map f ∧ ∀ a, ¬ v.InImage a → m' a = m a :=
  proxy_refines_seq v hwf hne hinj _ (transformProg_typed _ f hf _ _ _) m _ _ (transformProg_map f (rowsVal v m))

/-- `std::find_if(v.begin(), v.end(), p)` (and `std::find`): the position of the first row satisfying `p`, `N` if none;
    nothing is written -/
theorem algo_find_on_views (v : View) (hwf : v.lay.WF) (hne : v.lay ≠ []) (hinj : v.Injective) (m : Mem α)
    (p : List α → Bool) :
    ∃ m', (findProg p (rowsVal v m).length 0).runRows v m = some (m', (((rowsVal v m).findIdx p : Nat) : Int)) ∧
      rowsVal v m' = rowsVal v m ∧ ∀ a, ¬ v.InImage a → m' a = m a :=
  proxy_refines_seq v hwf hne hinj _ (findProg_typed _ p _ _) m _ _ (findProg_list p (rowsVal v m))

/-- `std::equal(v.begin() + a, v.begin() + a + n, v.begin() + b)` (1 = true) -/
theorem algo_equal_on_views (v : View) (hwf : v.lay.WF) (hne : v.lay ≠ []) (hinj : v.Injective) (m : Mem α)
    (eq : List α → List α → Bool) (n a b : Nat) (ha : a + n ≤ (rowsVal v m).length) (hb : b + n ≤ (rowsVal v m).length) :
    ∃ m', (equalProg eq n a b).runRows v m
        = some (m', if ((seg (rowsVal v m) a n).zip (seg (rowsVal v m) b n)).all (fun q => eq q.1 q.2) then 1 else 0) ∧
      rowsVal v m' = rowsVal v m ∧ ∀ a, ¬ v.InImage a → m' a = m a :=
  proxy_refines_seq v hwf hne hinj _ (equalProg_typed _ eq _ _ _) m _ _ (equalProg_list eq (rowsVal v m) n a b ha hb)

/-- `std::accumulate(v.begin(), v.end(), init, op)` with an integer accumulator -/
theorem algo_accumulate_on_views (v : View) (hwf : v.lay.WF) (hne : v.lay ≠ []) (hinj : v.Injective) (m : Mem α)
    (op : Int → List α → Int) (init : Int) :
    ∃ m', (accumulateProg op (rowsVal v m).length 0 init).runRows v m = some (m', (rowsVal v m).foldl op init) ∧
      rowsVal v m' = rowsVal v m ∧ ∀ a, ¬ v.InImage a → m' a = m a :=
  proxy_refines_seq v hwf hne hinj _ (accumulateProg_typed _ op _ _ _) m _ _ (accumulateProg_list op (rowsVal v m) init)

/-- `std::is_sorted(v.begin(), v.end(), lt)` (1 = true) -/
theorem algo_is_sorted_on_views (v : View) (hwf : v.lay.WF) (hne : v.lay ≠ []) (hinj : v.Injective) (m : Mem α)
    (lt : List α → List α → Bool) :
    ∃ m', (isSortedProg lt (rowsVal v m).length).runRows v m = some (m', if adjSorted lt (rowsVal v m) then 1 else 0) ∧
      rowsVal v m' = rowsVal v m ∧ ∀ a, ¬ v.InImage a → m' a = m a :=
  proxy_refines_seq v hwf hne hinj _ (isSortedProg_typed _ lt _) m _ _ (isSortedProg_list lt (rowsVal v m))

/-- `std::lexicographical_compare(v.begin() + a, v.begin() + a + n1, v.begin() + b, v.begin() + b + n2, lt)` (1 = true) -/
theorem algo_lexicographical_compare_on_views (v : View) (hwf : v.lay.WF) (hne : v.lay ≠ []) (hinj : v.Injective)
    (m : Mem α) (lt : List α → List α → Bool) (n1 n2 a b : Nat) (ha : a + n1 ≤ (rowsVal v m).length)
    (hb : b + n2 ≤ (rowsVal v m).length) :
    ∃ m', (lexCompareProg lt n1 n2 a b).runRows v m
        = some (m', if listLex lt (seg (rowsVal v m) a n1) (seg (rowsVal v m) b n2) then 1 else 0) ∧
      rowsVal v m' = rowsVal v m ∧ ∀ a, ¬ v.InImage a → m' a = m a :=
  proxy_refines_seq v hwf hne hinj _ (lexCompareProg_typed _ lt _ _ _ _) m _ _
    (lexCompareProg_list lt (rowsVal v m) n1 n2 a b ha hb)

/-- `std::remove_if(v.begin(), v.end(), p)` (and `std::remove`): the kept rows, in order, form the prefix up to the
    returned position -/
theorem algo_remove_on_views (v : View) (hwf : v.lay.WF) (hne : v.lay ≠ []) (hinj : v.Injective) (m : Mem α)
    (p : List α → Bool) :
    ∃ m', (removeProg p (rowsVal v m).length).runRows v m
        = some (m', ((((rowsVal v m).filter fun x => !p x).length : Nat) : Int)) ∧
      ((rowsVal v m').length = (rowsVal v m).length ∧
        (rowsVal v m').take ((rowsVal v m).filter fun x => !p x).length = (rowsVal v m).filter fun x => !p x) ∧
      ∀ a, ¬ v.InImage a → m' a = m a :=
  rows_on_views v hwf hne hinj m (removeProg_typed _ p _) (removeProg_list p (rowsVal v m))

/-- `std::partition(v.begin(), v.end(), p)`: the rows afterwards are a permutation of the rows before, the returned position
    is the number of rows satisfying `p`, every row before it satisfies `p` and no row from it on does -/
theorem algo_partition_on_views (v : View) (hwf : v.lay.WF) (hne : v.lay ≠ []) (hinj : v.Injective) (m : Mem α)
    (p : List α → Bool) :
    ∃ m', (partitionProg p (rowsVal v m).length).runRows v m = some (m', ((((rowsVal v m).filter p).length : Nat) : Int)) ∧
      ((rowsVal v m').Perm (rowsVal v m) ∧
        (∀ r ∈ (rowsVal v m').take ((rowsVal v m).filter p).length, p r = true) ∧
        (∀ r ∈ (rowsVal v m').drop ((rowsVal v m).filter p).length, p r = false)) ∧
      ∀ a, ¬ v.InImage a → m' a = m a :=
  rows_on_views v hwf hne hinj m (partitionProg_typed _ p _) (partitionProg_list p (rowsVal v m))

/-- `std::unique(v.begin(), v.end(), eq)`: the rows up to the returned position are the rows before with every row equal
    (under `eq`) to the last kept one dropped -/
theorem algo_unique_on_views (v : View) (hwf : v.lay.WF) (hne : v.lay ≠ []) (hinj : v.Injective) (m : Mem α)
    (eq : List α → List α → Bool) :
    ∃ m', (uniqueProg eq (rowsVal v m).length).runRows v m = some (m', (((uniq eq (rowsVal v m)).length : Nat) : Int)) ∧
      ((rowsVal v m').length = (rowsVal v m).length ∧
        (rowsVal v m').take (uniq eq (rowsVal v m)).length = uniq eq (rowsVal v m)) ∧
      ∀ a, ¬ v.InImage a → m' a = m a :=
  rows_on_views v hwf hne hinj m (uniqueProg_typed _ eq _) (uniqueProg_list eq (rowsVal v m))

/-- `std::sort(v.begin(), v.end(), lt)` on a view with at most 16 rows (libstdc++ then runs `__insertion_sort`), `lt` a strict
    weak order on row values: afterwards the rows are a sorted permutation of the rows before -/
theorem algo_sort16_on_views (v : View) (hwf : v.lay.WF) (hne : v.lay ≠ []) (hinj : v.Injective) (m : Mem α)
    (lt : List α → List α → Bool) (hasym : ∀ a b, lt a b = true → lt b a = false)
    (htr : ∀ a b c, lt b a = false → lt c b = false → lt c a = false) (_h16 : (rowsVal v m).length ≤ 16) :
    ∃ m', (insertionSortProg lt (rowsVal v m).length).runRows v m = some (m', 0) ∧
      ((rowsVal v m').Perm (rowsVal v m) ∧ (rowsVal v m').Pairwise fun a b => lt b a = false) ∧
      ∀ a, ¬ v.InImage a → m' a = m a :=
  rows_on_views v hwf hne hinj m (insertionSortProg_typed _ lt _) (insertionSortProg_list lt hasym htr (rowsVal v m))

/-- sanity of the reference: `unique` on a list with runs of duplicates -/
example : uniq (fun a b : Nat => a == b) [1, 1, 2, 2, 2, 1, 3, 3] = [1, 2, 1, 3] := by decide

/-! … and on the flat `elements()` range (no typing condition: elements are single cells) -/

theorem algo_reverse_on_elements (v : View) (hwf : v.lay.WF) (hne : v.lay ≠ []) (hinj : v.Injective) (m : Mem α) :
    ∃ m', (revProg α (elemsVal v m).length 0 (elemsVal v m).length).runElems v m = some (m', 0) ∧
      elemsVal v m' = (elemsVal v m).reverse ∧ ∀ a, ¬ v.InImage a → m' a = m a :=
  elements_refines_seq v hwf hne hinj _ m _ _ (revProg_list (elemsVal v m))

theorem algo_fill_on_elements (v : View) (hwf : v.lay.WF) (hne : v.lay ≠ []) (hinj : v.Injective) (m : Mem α) (x : α) :
    ∃ m', (fillProg x (elemsVal v m).length 0).runElems v m = some (m', ((elemsVal v m).length : Int)) ∧
      elemsVal v m' = List.replicate (elemsVal v m).length x ∧ ∀ a, ¬ v.InImage a → m' a = m a :=
  elements_refines_seq v hwf hne hinj _ m _ _ (fillProg_all x (elemsVal v m))

theorem algo_copy_on_elements (v : View) (hwf : v.lay.WF) (hne : v.lay ≠ []) (hinj : v.Injective) (m : Mem α)
    (n s d : Nat) (hs : s + n ≤ (elemsVal v m).length) (hd : d + n ≤ (elemsVal v m).length) (hsafe : d ≤ s ∨ s + n ≤ d) :
    ∃ m', (copyProg n s d).runElems v m = some (m', ((d + n : Nat) : Int)) ∧
      ((elemsVal v m').length = (elemsVal v m).length ∧
        (∀ i, i < n → (elemsVal v m')[d + i]? = (elemsVal v m)[s + i]?) ∧
        (∀ j, (j < d ∨ d + n ≤ j) → (elemsVal v m')[j]? = (elemsVal v m)[j]?)) ∧
      ∀ a, ¬ v.InImage a → m' a = m a :=
  elems_on_views v hwf hne hinj m (copyProg_list (elemsVal v m) n s d hs hd hsafe)

theorem algo_find_on_elements (v : View) (hwf : v.lay.WF) (hne : v.lay ≠ []) (hinj : v.Injective) (m : Mem α)
    (p : α → Bool) :
    ∃ m', (findProg p (elemsVal v m).length 0).runElems v m = some (m', (((elemsVal v m).findIdx p : Nat) : Int)) ∧
      elemsVal v m' = elemsVal v m ∧ ∀ a, ¬ v.InImage a → m' a = m a :=
  elements_refines_seq v hwf hne hinj _ m _ _ (findProg_list p (elemsVal v m))

theorem algo_accumulate_on_elements (v : View) (hwf : v.lay.WF) (hne : v.lay ≠ []) (hinj : v.Injective) (m : Mem α)
    (op : Int → α → Int) (init : Int) :
    ∃ m', (accumulateProg op (elemsVal v m).length 0 init).runElems v m = some (m', (elemsVal v m).foldl op init) ∧
      elemsVal v m' = elemsVal v m ∧ ∀ a, ¬ v.InImage a → m' a = m a :=
  elements_refines_seq v hwf hne hinj _ m _ _ (accumulateProg_list op (elemsVal v m) init)

theorem algo_partition_on_elements (v : View) (hwf : v.lay.WF) (hne : v.lay ≠ []) (hinj : v.Injective) (m : Mem α)
    (p : α → Bool) :
    ∃ m', (partitionProg p (elemsVal v m).length).runElems v m = some (m', ((((elemsVal v m).filter p).length : Nat) : Int)) ∧
      ((elemsVal v m').Perm (elemsVal v m) ∧
        (∀ r ∈ (elemsVal v m').take ((elemsVal v m).filter p).length, p r = true) ∧
        (∀ r ∈ (elemsVal v m').drop ((elemsVal v m).filter p).length, p r = false)) ∧
      ∀ a, ¬ v.InImage a → m' a = m a :=
  elems_on_views v hwf hne hinj m (partitionProg_list p (elemsVal v m))

theorem algo_unique_on_elements (v : View) (hwf : v.lay.WF) (hne : v.lay ≠ []) (hinj : v.Injective) (m : Mem α)
    (eq : α → α → Bool) :
    ∃ m', (uniqueProg eq (elemsVal v m).length).runElems v m = some (m', (((uniq eq (elemsVal v m)).length : Nat) : Int)) ∧
      ((elemsVal v m').length = (elemsVal v m).length ∧
        (elemsVal v m').take (uniq eq (elemsVal v m)).length = uniq eq (elemsVal v m)) ∧
      ∀ a, ¬ v.InImage a → m' a = m a :=
  elems_on_views v hwf hne hinj m (uniqueProg_list eq (elemsVal v m))

theorem algo_sort16_on_elements (v : View) (hwf : v.lay.WF) (hne : v.lay ≠ []) (hinj : v.Injective) (m : Mem α)
    (lt : α → α → Bool) (hasym : ∀ a b, lt a b = true → lt b a = false)
    (htr : ∀ a b c, lt b a = false → lt c b = false → lt c a = false) (_h16 : (elemsVal v m).length ≤ 16) :
    ∃ m', (insertionSortProg lt (elemsVal v m).length).runElems v m = some (m', 0) ∧
      ((elemsVal v m').Perm (elemsVal v m) ∧ (elemsVal v m').Pairwise fun a b => lt b a = false) ∧
      ∀ a, ¬ v.InImage a → m' a = m a :=
  elems_on_views v hwf hne hinj m (insertionSortProg_list lt hasym htr (elemsVal v m))

/-! non-vacuity: the transposed 3×2 view of a 2×3 array at base 10 satisfies every hypothesis of `proxy_refines_seq` /
    `elements_refines_seq`, and insertion sort written against the interface sorts a list of independent rows -/
example : ∃ v : View, v.lay.WF ∧ v.lay ≠ [] ∧ v.Injective ∧ v.exts = [⟨0, 3⟩, ⟨0, 2⟩] :=
  ⟨⟨10, [⟨1, 0, 3⟩, ⟨3, 0, 6⟩]⟩, by decide, by decide, View.injective_of_nodup (by decide), by decide⟩

example : (isortProg (listLex fun (a b : Int) => decide (a < b)) 10 0 3).runList [[3, 1], [2, 5], [2, 4]]
    = some ([[2, 4], [2, 5], [3, 1]], 0) := by decide +kernel

example : (revProg Nat 5 0 5).runList [1, 2, 3, 4, 5] = some ([5, 4, 3, 2, 1], 0) := by decide +kernel

example : (insertionSortProg (fun a b : Nat => decide (a < b)) 7).runList [3, 1, 2, 3, 0, 5, 1] = some ([0, 1, 1, 2, 3, 3, 5], 0) := by
  decide +kernel

example : (partitionProg (fun n : Nat => n % 2 == 0) 6).runList [1, 2, 3, 4, 5, 6] = some ([6, 2, 4, 3, 5, 1], 3) := by
  decide +kernel

example : (uniqueProg (fun a b : Nat => a == b) 8).runList [1, 1, 2, 2, 2, 1, 3, 3] = some ([1, 2, 1, 3, 2, 1, 3, 3], 4) := by
  decide +kernel

end C03
end Multi
