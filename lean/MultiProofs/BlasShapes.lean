/-
  MultiProofs.BlasShapes — the view invariants assumed of operand descriptors, and their linear consequences.

  A 2-D view obtained from an array by sub-blocks, row striding and transposition is either of the ROW family
  (the outer stride spans at least one row: n1·s1 ≤ s0, s1 ≤ s0) or of the COLUMN family (n0·s0 ≤ s1, s0 ≤ s1).
-/
import MultiModel.Blas

namespace Multi.Blas

structure Mat.WF (m : Mat) : Prop where
  n0 : 0 ≤ m.n0
  n1 : 0 ≤ m.n1
  s0 : 1 ≤ m.s0
  s1 : 1 ≤ m.s1
  fam : (m.n1 * m.s1 ≤ m.s0 ∧ m.s1 ≤ m.s0) ∨ (m.n0 * m.s0 ≤ m.s1 ∧ m.s0 ≤ m.s1)

/-- the invariant as one decidable proposition, for concrete descriptors -/
theorem Mat.WF.of_and {m : Mat} (h : 0 ≤ m.n0 ∧ 0 ≤ m.n1 ∧ 1 ≤ m.s0 ∧ 1 ≤ m.s1 ∧
    ((m.n1 * m.s1 ≤ m.s0 ∧ m.s1 ≤ m.s0) ∨ (m.n0 * m.s0 ≤ m.s1 ∧ m.s0 ≤ m.s1))) : m.WF :=
  ⟨h.1, h.2.1, h.2.2.1, h.2.2.2.1, h.2.2.2.2⟩

theorem Mat.WF.tr {m : Mat} (h : m.WF) : m.tr.WF := ⟨h.n1, h.n0, h.s1, h.s0, h.fam.symm⟩

structure Vec.WF (v : Vec) : Prop where
  n : 0 ≤ v.n
  inc : 1 ≤ v.inc

/-- what the invariant says, in linear form, when one of the strides is 1 -/
def Mat.Lin (m : Mat) : Prop :=
  0 ≤ m.n0 ∧ 0 ≤ m.n1 ∧ 1 ≤ m.s0 ∧ 1 ≤ m.s1 ∧
  (m.s1 = 1 → (m.n1 ≤ m.s0 ∨ (m.s0 = 1 ∧ m.n0 ≤ 1))) ∧
  (m.s0 = 1 → (m.n0 ≤ m.s1 ∨ (m.s1 = 1 ∧ m.n1 ≤ 1)))

theorem mul_le_one {n s : Int} (hn : 0 ≤ n) (hs : 1 ≤ s) (h : n * s ≤ 1) : n ≤ 1 := by
  by_cases h0 : n ≤ 1
  · exact h0
  · have hn1 : 2 ≤ n := by omega
    have h2 : 2 * s ≤ n * s := Int.mul_le_mul_of_nonneg_right hn1 (by omega)
    omega

/-- a unit inner stride: the row family bounds the row length by the outer stride; in the column family both strides are 1
    and there is at most one row -/
theorem Mat.WF.lin_row {m : Mat} (h : m.WF) (h1 : m.s1 = 1) : m.n1 ≤ m.s0 ∨ (m.s0 = 1 ∧ m.n0 ≤ 1) := by
  rcases h.fam with ⟨hf, _⟩ | ⟨hf, hs⟩
  · rw [h1] at hf; left; omega
  · rw [h1] at hs
    have hs0 : m.s0 = 1 := by have := h.s0; omega
    rw [hs0] at hf
    right; exact ⟨hs0, by omega⟩

/-- the statement for a unit outer stride is the one above for the transposed view -/
theorem Mat.WF.lin {m : Mat} (h : m.WF) : m.Lin := ⟨h.n0, h.n1, h.s0, h.s1, h.lin_row, h.tr.lin_row⟩

theorem Mat.Lin.n0 {m : Mat} (h : m.Lin) : 0 ≤ m.n0 := h.1

theorem Mat.Lin.n1 {m : Mat} (h : m.Lin) : 0 ≤ m.n1 := h.2.1

theorem Mat.Lin.s0 {m : Mat} (h : m.Lin) : 1 ≤ m.s0 := h.2.2.1

theorem Mat.Lin.s1 {m : Mat} (h : m.Lin) : 1 ≤ m.s1 := h.2.2.2.1

theorem Mat.Lin.row {m : Mat} (h : m.Lin) (h1 : m.s1 = 1) : m.n1 ≤ m.s0 ∨ m.n0 ≤ 1 :=
  (h.2.2.2.2.1 h1).imp_right And.right

theorem Mat.Lin.col {m : Mat} (h : m.Lin) (h0 : m.s0 = 1) : m.n0 ≤ m.s1 ∨ m.n1 ≤ 1 :=
  (h.2.2.2.2.2 h0).imp_right And.right

/-- a bound on both extents of a column-major view bounds its leading dimension -/
theorem Mat.Lin.le_s1 {m : Mat} (h : m.Lin) (h0 : m.s0 = 1) {x : Int} (hx0 : x ≤ m.n0) (hx1 : x ≤ m.n1) : x ≤ m.s1 :=
  (h.col h0).elim (Int.le_trans hx0) (fun h1 => Int.le_trans hx1 (Int.le_trans h1 h.s1))

theorem Mat.Lin.le_s0 {m : Mat} (h : m.Lin) (h1 : m.s1 = 1) {x : Int} (hx0 : x ≤ m.n0) (hx1 : x ≤ m.n1) : x ≤ m.s0 :=
  (h.row h1).elim (Int.le_trans hx1) (fun h0 => Int.le_trans hx0 (Int.le_trans h0 h.s0))

/-- usable as a row-major block whose leading dimension is the outer stride -/
def Mat.RowOK (m : Mat) : Prop := m.n1 ≤ m.s0
/-- usable as a column-major block whose leading dimension is the inner stride -/
def Mat.ColOK (m : Mat) : Prop := m.n0 ≤ m.s1

/-- the operand sizes of C = A·B fit (what the front end asserts) -/
structure GemmShapes (a b c : Mat) : Prop where
  wa : a.WF
  wb : b.WF
  wc : c.WF
  m : a.n0 = c.n0
  k : a.n1 = b.n0
  n : b.n1 = c.n1

end Multi.Blas
