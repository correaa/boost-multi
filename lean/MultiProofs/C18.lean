/-
  C18 — The (buffer, count, datatype) MPI message built from `elements()` of any array or view denotes exactly that
  view's elements in canonical order; datatypes are committed before use and freed exactly once.

  The model is MultiModel/Mpi.lean: the skeleton recursion of mpi.hpp on a ledger of datatype handles, with MPI's
  typemap semantics for hvector / resized / message.
-/
import MultiProofs.MpiLemmas
import MultiProofs.SerInj

namespace Multi
namespace C18
open Mpi

/-- `message(v.elements())` on a ledger in which the element datatype (handle 0) is live: the skeleton of the
    zero-based layout, committed -/
theorem ofElements_built (v : View) (hne : v.lay ≠ []) (hwf : v.lay.WF) (L : Ledger) (h0 : L.live (some 0) = true) :
    ∃ L1 h, Message.ofElements L (ElemRange.ofView v) = (L1, ⟨v.base, ⟨v.size, some h⟩⟩) ∧
      L.Built L1 h ⟨skelTm (L.recs 0).tm (v.lay.map Dim.zeroOff) 1, false, true, 0⟩ := by
  cases hv : v.lay with
  | nil => exact absurd hv hne
  | cons d l =>
    obtain ⟨L', h, b1, X⟩ := build_built (l.map Dim.zeroOff) d.zeroOff L 0 1 h0 (by decide) (fun x hx =>
      (zeroOff_wf hwf x (by rw [hv]; exact List.mem_cons_of_mem _ hx)).size_nonneg)
    refine ⟨L'.commit (some h), h, ?_, X.commit rfl⟩
    simp only [Message.ofElements, Skeleton.make, ofView_zeroOff, hv, List.map_cons, b1, View.size]
    rfl

/-- what `message(v.elements())` does to a ledger in which the element datatype (handle 0) is live -/
theorem ofElements_spec (v : View) (hne : v.lay ≠ []) (hwf : v.lay.WF) (L : Ledger) (h0 : L.live (some 0) = true) :
    ∃ L1 h, Message.ofElements L (ElemRange.ofView v) = (L1, ⟨v.base, ⟨v.size, some h⟩⟩) ∧
      L.next ≤ h ∧ h < L1.next ∧ L1.errs = L.errs ∧ (∀ j, j < L.next → L1.recs j = L.recs j) ∧
      L1.recs h = ⟨skelTm (L.recs 0).tm (v.lay.map Dim.zeroOff) 1, false, true, 0⟩ ∧
      (∀ j, L.next ≤ j → j < L1.next → j ≠ h → (L1.recs j).freed = 1 ∧ (L1.recs j).builtin = false) := by
  obtain ⟨L1, h, e, X⟩ := ofElements_built v hne hwf L h0
  exact ⟨L1, h, e, X.lo, X.hi, X.errs, X.old, X.res, X.tmp⟩

/-- **C18, the message.**  For every dimensionality D ≥ 1 and every well-formed view `v` (any strides, offsets, sizes —
    zero sizes included), `message(v.elements())` has `buffer() = ` the address of `v`'s first element and its
    `count()` copies of `datatype()` denote exactly the byte displacements `sizeof(T)·(addr v idx − base)`, `idx` running
    over `v`'s index box in canonical order: no more, no fewer, none outside the view. -/
theorem message_typemap (v : View) (hne : v.lay ≠ []) (hwf : v.lay.WF) (sz : Int) (L : Ledger)
    (h0 : L.live (some 0) = true) (hbase : (L.recs 0).tm = Typemap.basic sz) :
    (Message.ofElements L (ElemRange.ofView v)).2.buf = v.base ∧
    (Message.ofElements L (ElemRange.ofView v)).2.disps (Message.ofElements L (ElemRange.ofView v)).1 =
      (boxIndices v.exts).map (fun idx => sz * (v.addr idx - v.base)) := by
  obtain ⟨L1, h, e1, X⟩ := ofElements_built v hne hwf L h0
  rw [e1]
  refine ⟨rfl, ?_⟩
  simp only [Message.disps, Ledger.tmOf, X.res, hbase]
  cases hv : v.lay with
  | nil => exact absurd hv hne
  | cons d l =>
    have hsize : v.size = (Dim.zeroOff d).size := by simp only [View.size, hv]; rfl
    rw [List.map_cons, hsize, message_disps, ← List.map_cons, canonOffs_zeroOff, ← hv, ← boxIndices_off v.lay hwf,
      View.exts, List.map_map]
    apply List.map_congr_left
    intro idx _
    simp only [Function.comp, addr_eq]
    congr 1; omega

theorem pack_addrs {α ι : Type} (m : Int → α) (sz : Int) (hsz : sz ≠ 0) (buf : Int) (f : ι → Int) : ∀ (l : List ι),
    pack m sz buf (l.map fun i => sz * (f i - buf)) = some (l.map fun i => m (f i))
  | [] => rfl
  | i :: l => by
    have ih := pack_addrs m sz hsz buf f l
    have e : buf + (f i - buf) = f i := by omega
    simp only [pack, List.map_cons, List.mapM_cons, Int.mul_tmod_right, if_true, Int.mul_tdiv_cancel_left _ hsz, e] at ih ⊢
    rw [ih]; rfl

theorem unpack_addrs {α ι : Type} (sz : Int) (hsz : sz ≠ 0) (buf : Int) (f : ι → Int) : ∀ (l : List ι) (xs : List α) (m : Int → α),
    l.length = xs.length → unpack m sz buf (l.map fun i => sz * (f i - buf)) xs = some (storeAt m (l.map f) xs)
  | [], [], _, _ => rfl
  | [], _ :: _, _, h => nomatch h
  | _ :: _, [], _, h => nomatch h
  | i :: l, x :: xs, m, hlen => by
    have e : buf + (f i - buf) = f i := by omega
    simp only [List.map_cons, unpack, Int.mul_tmod_right, if_true, Int.mul_tdiv_cancel_left _ hsz, e]
    exact unpack_addrs sz hsz buf f l xs _ (Nat.succ.inj hlen)

/-- the transfer on any ledger in which the element datatype is live -/
theorem transfer {α : Type} (v w : View) (hv : v.lay ≠ []) (hw : w.lay ≠ []) (hvwf : v.lay.WF) (hwwf : w.lay.WF)
    (sz : Int) (hsz : sz ≠ 0) (hcount : (boxIndices v.exts).length = (boxIndices w.exts).length)
    (hinj : (canonAddrs w).Nodup) (L : Ledger) (h0 : L.live (some 0) = true) (hbase : (L.recs 0).tm = Typemap.basic sz)
    (ms md : Int → α) :
    let Lv := Message.ofElements L (ElemRange.ofView v)
    let Lw := Message.ofElements Lv.1 (ElemRange.ofView w)
    ∃ packed md', pack ms sz Lv.2.buf (Lv.2.disps Lv.1) = some packed ∧
      packed = (boxIndices v.exts).map (fun idx => ms (v.addr idx)) ∧
      unpack md sz Lw.2.buf (Lw.2.disps Lw.1) packed = some md' ∧
      (∀ p, p ∉ canonAddrs w → md' p = md p) ∧
      (boxIndices w.exts).map (fun idx => md' (w.addr idx)) = (boxIndices v.exts).map (fun idx => ms (v.addr idx)) := by
  intro Lv Lw
  obtain ⟨bv, dv⟩ := message_typemap v hv hvwf sz L h0 hbase
  obtain ⟨L1, h, e1, X⟩ := ofElements_built v hv hvwf L h0
  obtain ⟨k1, k2⟩ := X.keeps h0
  have hL1 : Lv.1 = L1 := congrArg Prod.fst e1
  obtain ⟨bw, dw⟩ := message_typemap w hw hwwf sz Lv.1 (by rw [hL1]; exact k1) (by rw [hL1, k2]; exact hbase)
  have hlen : (boxIndices w.exts).length = ((boxIndices v.exts).map fun idx => ms (v.addr idx)).length := by
    rw [List.length_map, hcount]
  refine ⟨_, _, by rw [bv, dv]; exact pack_addrs ms sz hsz v.base v.addr _, rfl,
    by rw [bw, dw]; exact unpack_addrs sz hsz w.base w.addr _ _ md hlen, fun p => storeAt_frame _ _ md p, ?_⟩
  have := storeAt_read (canonAddrs w) _ md ((canonAddrs_length w).trans hlen) hinj
  rwa [map_canonAddrs] at this

/-- **C18, transfer.**  Packing the message of `v.elements()` from memory `ms` and unpacking the bytes through the message
    of `w.elements()` into memory `md` — `v`, `w` any two well-formed views with the same number of elements, `w`'s
    elements pairwise distinct locations — makes the k-th element of `w` (canonical order) equal to the k-th element
    of `v`, and changes no address that is not an element of `w`. -/
theorem pack_unpack_kth {α : Type} (v w : View) (hv : v.lay ≠ []) (hw : w.lay ≠ []) (hvwf : v.lay.WF) (hwwf : w.lay.WF)
    (sz : Int) (hsz : sz ≠ 0) (hcount : (boxIndices v.exts).length = (boxIndices w.exts).length)
    (hinj : (canonAddrs w).Nodup) (ms md : Int → α) :
    let Lv := Message.ofElements (Ledger.init sz) (ElemRange.ofView v)
    let Lw := Message.ofElements Lv.1 (ElemRange.ofView w)
    ∃ packed md', pack ms sz Lv.2.buf (Lv.2.disps Lv.1) = some packed ∧
      packed = (boxIndices v.exts).map (fun idx => ms (v.addr idx)) ∧
      unpack md sz Lw.2.buf (Lw.2.disps Lw.1) packed = some md' ∧
      (∀ p, p ∉ canonAddrs w → md' p = md p) ∧
      (boxIndices w.exts).map (fun idx => md' (w.addr idx)) = (boxIndices v.exts).map (fun idx => ms (v.addr idx)) :=
  transfer v w hv hw hvwf hwwf sz hsz hcount hinj (Ledger.init sz) (by simp [Ledger.init, Ledger.live]) rfl ms md

/-- `pack_unpack_kth` for views reachable from arrays (C01's `Reach`) on both sides: well-formedness and the distinct
    locations of the destination follow from C01, so only "D ≥ 1" and "equal element counts" remain. -/
theorem reachable_pack_unpack_kth {α : Type}
    (bv : Int) (esv : List Ext) (hesv : ∀ e ∈ esv, e.first ≤ e.last) (v : View) (denv : Den) (hrv : Reach ⟨bv, Layout.ofExts esv⟩ v denv)
    (bw : Int) (esw : List Ext) (hesw : ∀ e ∈ esw, e.first ≤ e.last) (w : View) (denw : Den) (hrw : Reach ⟨bw, Layout.ofExts esw⟩ w denw)
    (hv : v.lay ≠ []) (hw : w.lay ≠ []) (sz : Int) (hsz : sz ≠ 0)
    (hcount : (boxIndices v.exts).length = (boxIndices w.exts).length) (ms md : Int → α) :
    let Lv := Message.ofElements (Ledger.init sz) (ElemRange.ofView v)
    let Lw := Message.ofElements Lv.1 (ElemRange.ofView w)
    ∃ packed md', pack ms sz Lv.2.buf (Lv.2.disps Lv.1) = some packed ∧
      packed = (boxIndices v.exts).map (fun idx => ms (v.addr idx)) ∧
      unpack md sz Lw.2.buf (Lw.2.disps Lw.1) packed = some md' ∧
      (∀ p, p ∉ canonAddrs w → md' p = md p) ∧
      (boxIndices w.exts).map (fun idx => md' (w.addr idx)) = (boxIndices v.exts).map (fun idx => ms (v.addr idx)) :=
  pack_unpack_kth v w hv hw (reachable_wf bv esv hesv v denv hrv) (reachable_wf bw esw hesw w denw hrw) sz hsz hcount
    (reachable_canonAddrs_nodup bw esw hesw w denw hrw) ms md

/-- **C18, datatypes.**  Build `message(v.elements())` on any ledger `L` in which the element datatype is live, use it,
    destroy it.  Then: no erroneous MPI call was made at any point (no free of `MPI_DATATYPE_NULL`, of a freed or of a
    builtin datatype; no construction from a freed datatype; no use before commit) — in particular the destructors of
    moved-from skeletons, which hold `MPI_DATATYPE_NULL`, free nothing; at the time of use the message's datatype is
    committed and not freed; every datatype created during construction other than the message's own has been freed
    exactly once already; after destruction every datatype created has been freed exactly once; datatypes that existed
    before are untouched. -/
theorem types_committed_and_freed_once (v : View) (hne : v.lay ≠ []) (hwf : v.lay.WF) (L : Ledger)
    (h0 : L.live (some 0) = true) :
    let Lm := Message.ofElements L (ElemRange.ofView v)
    let Lu := Lm.1.use Lm.2.sk.datatype
    let Ld := Lm.2.dtor Lu
    -- at the time of use
    (∃ h, Lm.2.sk.datatype = some h ∧ L.next ≤ h ∧ h < Lm.1.next ∧ (Lm.1.recs h).committed = true ∧ (Lm.1.recs h).freed = 0 ∧
       ∀ j, L.next ≤ j → j < Lm.1.next → j ≠ h → (Lm.1.recs j).freed = 1) ∧
    -- no erroneous call, ever
    Lm.1.errs = L.errs ∧ Lu.errs = L.errs ∧ Ld.errs = L.errs ∧
    -- afterwards
    (∀ j, L.next ≤ j → j < Ld.next → (Ld.recs j).freed = 1) ∧ (∀ j, j < L.next → Ld.recs j = L.recs j) := by
  obtain ⟨L1, h, e1, X⟩ := ofElements_built v hne hwf L h0
  have U := X.use rfl rfl
  obtain ⟨d1, d2, d3⟩ := U.free_res rfl rfl
  simp only [e1, Message.dtor, Skeleton.dtor]
  exact ⟨⟨h, rfl, X.lo, X.hi, by rw [X.res], by rw [X.res], fun j a b c => (X.tmp j a b c).1⟩, X.errs, U.errs, d1, d3, d2⟩

/-- a 3-D rotated sub-block (the probe of DESIGN §6: strides 5, 1, 20) is a well-formed view with D ≥ 1 -/
example : let v : View := ((⟨70, Layout.ofExts [⟨0, 3⟩, ⟨0, 4⟩, ⟨0, 5⟩]⟩ : View).rotated).paren [Arg.rng 1 3, Arg.rng 0 3, Arg.rng 1 3]
    v.lay ≠ [] ∧ v.strides = [5, 1, 20] ∧ v.sizes = [2, 3, 2] ∧ ∀ d ∈ v.lay, d.nelems = 0 ∨ (0 < d.stride ∧ 0 < d.nelems ∧ d.nelems % d.stride = 0 ∧ d.offset % d.stride = 0) := by
  decide +kernel

/-- the initial ledger satisfies the hypotheses on `L` -/
example (sz : Int) : (Ledger.init sz).live (some 0) = true ∧ ((Ledger.init sz).recs 0).tm = Typemap.basic sz := by
  simp [Ledger.init, Ledger.live]

/-- the message of a 2×3 array of 4-byte elements: displacements 0, 4, …, 20 -/
example : (Message.ofElements (Ledger.init 4) (ElemRange.ofView ⟨0, Layout.ofExts [⟨0, 2⟩, ⟨0, 3⟩]⟩)).2.disps
    (Message.ofElements (Ledger.init 4) (ElemRange.ofView ⟨0, Layout.ofExts [⟨0, 2⟩, ⟨0, 3⟩]⟩)).1 = [0, 4, 8, 12, 16, 20] := by
  decide +kernel

end C18
end Multi
