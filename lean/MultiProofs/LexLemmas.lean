/-
  MultiProofs.LexLemmas — helper lemmas for C07: `lexCompare` as the lexicographic order of the nested sequences,
  equality of nested values.
-/
import MultiProofs.Lex
import MultiProofs.StoreLemmas

namespace Multi

theorem Layout.exts_eqv_iff : ∀ (la lb : Layout), la.WF → lb.WF → (Exts.eqv la.exts lb.exts = true ↔ la.exts = lb.exts) :=
  fun _ _ wa wb => ⟨fun h => Exts.eq_of_eqv h wa.exts_norm wb.exts_norm, fun h => h ▸ Exts.eqv_refl _⟩

theorem lexRows_eq_listLex {β : Type} (R : β → β → Bool) (X Y : Int → β) (c12 c21 : Int → Int → Bool)
    (h12 : ∀ p q, c12 p q = R (X p) (Y q)) (h21 : ∀ q p, c21 q p = R (Y q) (X p)) (s1 s2 : Int) :
    ∀ (n1 n2 : Nat) (p1 p2 : Int), lexRows c12 c21 n1 n2 p1 s1 p2 s2 =
      listLex R ((List.range n1).map (fun (k : Nat) => X (p1 + Int.ofNat k * s1)))
                ((List.range n2).map (fun (k : Nat) => Y (p2 + Int.ofNat k * s2))) := by
  intro n1
  induction n1 with
  | zero =>
    intro n2 p1 p2
    cases n2 with
    | zero => rfl
    | succ n2 => rw [map_range_succ_stride]; rfl
  | succ n1 ih =>
    intro n2 p1 p2
    cases n2 with
    | zero => rw [map_range_succ_stride]; rfl
    | succ n2 => rw [lexRows, ih n2 (p1 + s1) (p2 + s2), h12, h21, map_range_succ_stride, map_range_succ_stride]; rfl

theorem toNested_cons (m : Mem α) (n : Nat) (d : Dim) (sub : Layout) (b : Int) (hd : d.WF) :
    toNested m (n + 1) (d :: sub) b =
      (List.range d.size.toNat).map (fun (k : Nat) => toNested m n sub (b + Int.ofNat k * d.stride)) := by
  rw [hd.size_eq]
  exact List.map_congr_left fun k hk => by rw [hd.row_off hk]

theorem lexCompare_eq_lexN (ltE : α → α → Bool) (m : Mem α) :
    ∀ (n : Nat) (la lb : Layout) (ba bb : Int), la.WF → lb.WF → la.length = n → lb.length = n →
      la.ZeroBased → lb.ZeroBased →
      lexCompare ltE m la ba lb bb = lexN ltE n (toNested m n la ba) (toNested m n lb bb) := by
  intro n
  induction n with
  | zero =>
    intro la lb ba bb _ _ hla hlb _ _
    cases List.eq_nil_of_length_eq_zero hla
    cases List.eq_nil_of_length_eq_zero hlb
    simp only [lexCompare, lexN, toNested]
  | succ n ih =>
    intro la lb ba bb wa wb hla hlb za zb
    obtain ⟨d1, s1, rfl⟩ := List.exists_cons_of_length_eq_add_one hla
    obtain ⟨d2, s2, rfl⟩ := List.exists_cons_of_length_eq_add_one hlb
    have z1 : d1.ext.first = 0 := za d1 List.mem_cons_self
    have z2 : d2.ext.first = 0 := zb d2 List.mem_cons_self
    have zs1 : Layout.ZeroBased s1 := fun d hd => za d (List.mem_cons_of_mem _ hd)
    have zs2 : Layout.ZeroBased s2 := fun d hd => zb d (List.mem_cons_of_mem _ hd)
    -- both first indices are 0: the pre-test on `extension().first()` decides nothing
    rw [lexCompare, z1, z2]
    simp only [Int.lt_irrefl, gt_iff_lt, if_false]
    rw [toNested_cons m n d1 s1 ba wa.head, toNested_cons m n d2 s2 bb wb.head]
    exact lexRows_eq_listLex (lexN ltE n) (toNested m n s1) (toNested m n s2) _ _
      (fun p q => ih s1 s2 p q wa.tail wb.tail (Nat.succ.inj hla) (Nat.succ.inj hlb) zs1 zs2)
      (fun q p => ih s2 s1 q p wb.tail wa.tail (Nat.succ.inj hlb) (Nat.succ.inj hla) zs2 zs1)
      d1.stride d2.stride _ _ ba bb

/-- the nested sequence with extensions `es` whose element at index tuple `idx` is `g idx` -/
def nestOf : (n : Nat) → List Ext → (List Int → α) → NestedN α n
  | 0, _, g => g []
  | _ + 1, [], _ => ([] : List _)
  | n + 1, e :: es, g =>
    (List.range e.size.toNat).map fun (k : Nat) => nestOf n es fun r => g ((e.first + Int.ofNat k) :: r)

/-- the value a view denotes is determined by its extensions and its elements, whatever the layout -/
theorem toNested_eq_nestOf (m : Mem α) :
    ∀ (n : Nat) (l : Layout) (b : Int), toNested m n l b = nestOf n l.exts (fun idx => m (b + l.off idx)) := by
  intro n
  induction n with
  | zero =>
    intro l b
    show m b = m (b + l.off [])
    cases l <;> exact congrArg m (Int.add_zero b).symm
  | succ n ih =>
    intro l b
    cases l with
    | nil => rfl
    | cons d sub =>
      show List.map _ _ = List.map _ _
      simp only [ih, Layout.off, Int.add_assoc]
      rfl

theorem forall_inBox_cons {e : Ext} {es : List Ext} {P : List Int → Prop} :
    (∀ idx, InBox (e :: es) idx → P idx) ↔
      ∀ k ∈ List.range e.size.toNat, ∀ r, InBox es r → P ((e.first + Int.ofNat k) :: r) := by
  simp only [← mem_boxIndices, boxIndices, List.mem_flatMap, List.mem_map, forall_exists_index, and_imp]
  exact ⟨fun H k hk r hr => H _ k hk r hr rfl, fun H idx k hk r hr e => e ▸ H k hk r hr⟩

/-- `0 < e.last` cannot be dropped: a sequence with an empty extension has no rows, so the value does not record its
    inner extensions -/
theorem nestOf_eq_iff : ∀ (n : Nat) (es es' : List Ext) (g g' : List Int → α), es.length = n → es'.length = n →
    (∀ e ∈ es, e.first = 0 ∧ 0 < e.last) → (∀ e ∈ es', e.first = 0 ∧ 0 < e.last) →
    (nestOf n es g = nestOf n es' g' ↔ es = es' ∧ ∀ idx, InBox es idx → g idx = g' idx) := by
  intro n
  induction n with
  | zero =>
    intro es es' g g' h h' _ _
    cases List.eq_nil_of_length_eq_zero h
    cases List.eq_nil_of_length_eq_zero h'
    refine ⟨fun e => ⟨rfl, fun idx hidx => ?_⟩, fun e => e.2 [] trivial⟩
    cases idx with
    | nil => exact e
    | cons _ _ => exact hidx.elim
  | succ n ih =>
    intro es es' g g' h h' p p'
    obtain ⟨⟨_, l⟩, t, rfl⟩ := List.exists_cons_of_length_eq_add_one h
    obtain ⟨⟨_, l'⟩, t', rfl⟩ := List.exists_cons_of_length_eq_add_one h'
    obtain ⟨rfl, (l0 : 0 < l)⟩ := p _ List.mem_cons_self
    obtain ⟨rfl, (l0' : 0 < l')⟩ := p' _ List.mem_cons_self
    have IH := fun (g g' : List Int → α) => ih t t' g g' (Nat.succ.inj h) (Nat.succ.inj h')
      (fun x hx => p x (List.mem_cons_of_mem _ hx)) (fun x hx => p' x (List.mem_cons_of_mem _ hx))
    have sz : ∀ {x : Int}, 0 < x → ((Ext.mk 0 x).size.toNat : Int) = x := fun hx => by
      rw [Ext.size, Int.sub_zero, Int.toNat_of_nonneg (Int.le_of_lt hx)]
    have h0 : 0 ∈ List.range (Ext.mk 0 l).size.toNat := List.mem_range.mpr (Int.lt_toNat.2 (Int.sub_pos_of_lt l0))
    show (List.map _ _ : List (NestedN α n)) = List.map _ _ ↔ _
    constructor
    · intro H
      -- equally many rows: the leading extensions agree
      have hlen := congrArg List.length H
      simp only [List.length_map, List.length_range] at hlen
      obtain rfl : l = l' := by rw [← sz l0, ← sz l0', hlen]
      simp only [List.map_inj_left, IH] at H
      -- row 0 exists and gives the inner extensions
      exact ⟨congrArg _ (H 0 h0).1, forall_inBox_cons.2 fun k hk => (H k hk).2⟩
    · rintro ⟨he, H⟩
      cases he
      rw [List.map_inj_left]
      exact fun k hk => (IH _ _).2 ⟨rfl, forall_inBox_cons.1 H k hk⟩

theorem Layout.exts_pos {l : Layout} (hw : l.WF) (hz : l.ZeroBased) (hne : l.numElements ≠ 0) :
    ∀ e ∈ l.exts, e.first = 0 ∧ 0 < e.last := by
  intro e he
  have h1 := pos_of_nElems_ne_zero _ hw.exts_le (numElements_eq_nElems hw ▸ hne) e he
  obtain ⟨d, hd, rfl⟩ := List.mem_map.mp he
  exact ⟨hz d hd, hz d hd ▸ h1⟩

theorem toNested_eq_iff (m : Mem α) (n : Nat) (la lb : Layout) (ba bb : Int) (wa : la.WF) (wb : lb.WF)
    (hla : la.length = n) (hlb : lb.length = n) (za : la.ZeroBased) (zb : lb.ZeroBased)
    (nea : la.numElements ≠ 0) (neb : lb.numElements ≠ 0) :
    toNested m n la ba = toNested m n lb bb ↔
      la.exts = lb.exts ∧ ∀ idx, InBox la.exts idx → m (ba + la.off idx) = m (bb + lb.off idx) := by
  rw [toNested_eq_nestOf, toNested_eq_nestOf]
  exact nestOf_eq_iff n _ _ _ _ ((List.length_map _).trans hla) ((List.length_map _).trans hlb)
    (Layout.exts_pos wa za nea) (Layout.exts_pos wb zb neb)

end Multi
