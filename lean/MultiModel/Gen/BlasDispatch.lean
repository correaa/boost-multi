/-
  GENERATED by tools/gen_blas_dispatch.py from include/boost/multi/adaptors/blas/*.hpp — do not edit.
  Regenerated on every run of `./check C13`; the committed copy is the translation of the pinned /repo tree.

  Vocabulary: for a 2-D operand `a`:  a.s0 = a_first.stride() = stride(a);  a.s1 = (*a_first).stride() = stride(~a);
  a.n0 = a_count = size(a);  a.n1 = (*a_first).size() = size(~a);  a.base = offset of a_first.base() / underlying(...) in the arena.
  `nd` = the build defines NDEBUG (assert(...) vanishes).  Branch ordinals are canonical (sorted by guard text).
-/
import MultiModel.Blas

namespace Multi.Blas.Gen
open Multi.Blas

set_option linter.unusedVariables false

/-- one `if` of a dispatch chain: whichever arm produced the outcome, its condition holds -/
theorem ite_eq_elim {α : Type} {c : Prop} [Decidable c] {x y r : α} {Q : Prop}
    (h : (if c then x else y) = r) (ht : c → x = r → Q) (he : ¬ c → y = r → Q) : Q := by
  split at h
  · exact ht ‹c› h
  · exact he ‹¬ c› h

/-- a leaf of a dispatch chain: the outcome is this leaf's call -/
theorem call_eq_elim {R : Type} {n t : Nat} {c cl : Call R} {P : Nat → Call R → Prop}
    (h : Outcome.call n c = .call t cl) (hp : P n c) : P t cl := by
  cases h
  exact hp

/-! ### `gemm_n_nn` — gemm.hpp:48
overload for is_conjugated<A> = False, is_conjugated<B> = False

| ordinal | source line | kind | own guards |
|---|---|---|---|
| 1 | 72 | assert0 | ¬ (a.n0 = 0) ; ¬ (((a.s1 = 1) ∧ (b.s1 = 1)) ∧ (c.s1 = 1)) ; ¬ (((a.s1 = 1) ∧ (b.s1 = 1)) ∧ (c.s0 = 1)) ; ¬ (((a.s0 = 1) ∧ (b.s1 = 1)) ∧ (c.s1 = 1)) ; ¬ (((a.s0 = 1) ∧ (b.s1 = 1)) ∧ (c.s0 = 1)) ; ¬ (((a.s1 = 1) ∧ (b.s0 = 1)) ∧ (c.s0 = 1)) ; ¬ (((a.s1 = 1) ∧ (b.s0 = 1)) ∧ (c.s1 = 1)) ; ¬ (((a.s0 = 1) ∧ (b.s0 = 1)) ∧ (c.s0 = 1)) ; ¬ (((a.s0 = 1) ∧ (b.s0 = 1)) ∧ (c.s1 = 1)) |
| 2 | 69 | call | ¬ (a.n0 = 0) ; ¬ (((a.s1 = 1) ∧ (b.s1 = 1)) ∧ (c.s1 = 1)) ; ¬ (((a.s1 = 1) ∧ (b.s1 = 1)) ∧ (c.s0 = 1)) ; ¬ (((a.s0 = 1) ∧ (b.s1 = 1)) ∧ (c.s1 = 1)) ; ¬ (((a.s0 = 1) ∧ (b.s1 = 1)) ∧ (c.s0 = 1)) ; ¬ (((a.s1 = 1) ∧ (b.s0 = 1)) ∧ (c.s0 = 1)) ; ¬ (((a.s1 = 1) ∧ (b.s0 = 1)) ∧ (c.s1 = 1)) ; (((a.s0 = 1) ∧ (b.s0 = 1)) ∧ (c.s0 = 1)) |
| 3 | 71 | call | ¬ (a.n0 = 0) ; ¬ (((a.s1 = 1) ∧ (b.s1 = 1)) ∧ (c.s1 = 1)) ; ¬ (((a.s1 = 1) ∧ (b.s1 = 1)) ∧ (c.s0 = 1)) ; ¬ (((a.s0 = 1) ∧ (b.s1 = 1)) ∧ (c.s1 = 1)) ; ¬ (((a.s0 = 1) ∧ (b.s1 = 1)) ∧ (c.s0 = 1)) ; ¬ (((a.s1 = 1) ∧ (b.s0 = 1)) ∧ (c.s0 = 1)) ; ¬ (((a.s1 = 1) ∧ (b.s0 = 1)) ∧ (c.s1 = 1)) ; ¬ (((a.s0 = 1) ∧ (b.s0 = 1)) ∧ (c.s0 = 1)) ; (((a.s0 = 1) ∧ (b.s0 = 1)) ∧ (c.s1 = 1)) |
| 4 | 63 | call | ¬ (a.n0 = 0) ; ¬ (((a.s1 = 1) ∧ (b.s1 = 1)) ∧ (c.s1 = 1)) ; ¬ (((a.s1 = 1) ∧ (b.s1 = 1)) ∧ (c.s0 = 1)) ; ¬ (((a.s0 = 1) ∧ (b.s1 = 1)) ∧ (c.s1 = 1)) ; (((a.s0 = 1) ∧ (b.s1 = 1)) ∧ (c.s0 = 1)) |
| 5 | 61 | call | ¬ (a.n0 = 0) ; ¬ (((a.s1 = 1) ∧ (b.s1 = 1)) ∧ (c.s1 = 1)) ; ¬ (((a.s1 = 1) ∧ (b.s1 = 1)) ∧ (c.s0 = 1)) ; (((a.s0 = 1) ∧ (b.s1 = 1)) ∧ (c.s1 = 1)) |
| 6 | 65 | call | ¬ (a.n0 = 0) ; ¬ (((a.s1 = 1) ∧ (b.s1 = 1)) ∧ (c.s1 = 1)) ; ¬ (((a.s1 = 1) ∧ (b.s1 = 1)) ∧ (c.s0 = 1)) ; ¬ (((a.s0 = 1) ∧ (b.s1 = 1)) ∧ (c.s1 = 1)) ; ¬ (((a.s0 = 1) ∧ (b.s1 = 1)) ∧ (c.s0 = 1)) ; (((a.s1 = 1) ∧ (b.s0 = 1)) ∧ (c.s0 = 1)) |
| 7 | 67 | call | ¬ (a.n0 = 0) ; ¬ (((a.s1 = 1) ∧ (b.s1 = 1)) ∧ (c.s1 = 1)) ; ¬ (((a.s1 = 1) ∧ (b.s1 = 1)) ∧ (c.s0 = 1)) ; ¬ (((a.s0 = 1) ∧ (b.s1 = 1)) ∧ (c.s1 = 1)) ; ¬ (((a.s0 = 1) ∧ (b.s1 = 1)) ∧ (c.s0 = 1)) ; ¬ (((a.s1 = 1) ∧ (b.s0 = 1)) ∧ (c.s0 = 1)) ; (((a.s1 = 1) ∧ (b.s0 = 1)) ∧ (c.s1 = 1)) |
| 8 | 59 | call | ¬ (a.n0 = 0) ; ¬ (((a.s1 = 1) ∧ (b.s1 = 1)) ∧ (c.s1 = 1)) ; (((a.s1 = 1) ∧ (b.s1 = 1)) ∧ (c.s0 = 1)) |
| 9 | 57 | call | ¬ (a.n0 = 0) ; (((a.s1 = 1) ∧ (b.s1 = 1)) ∧ (c.s1 = 1)) |
-/

/-- gemm.hpp:72 -/
abbrev gemm_n_nn.guard_1 (a b c : Mat) : Prop :=
  ¬ (a.n0 = 0) ∧ ¬ (((a.s1 = 1) ∧ (b.s1 = 1)) ∧ (c.s1 = 1)) ∧ ¬ (((a.s1 = 1) ∧ (b.s1 = 1)) ∧ (c.s0 = 1)) ∧ ¬ (((a.s0 = 1) ∧ (b.s1 = 1)) ∧ (c.s1 = 1)) ∧ ¬ (((a.s0 = 1) ∧ (b.s1 = 1)) ∧ (c.s0 = 1)) ∧ ¬ (((a.s1 = 1) ∧ (b.s0 = 1)) ∧ (c.s0 = 1)) ∧ ¬ (((a.s1 = 1) ∧ (b.s0 = 1)) ∧ (c.s1 = 1)) ∧ ¬ (((a.s0 = 1) ∧ (b.s0 = 1)) ∧ (c.s0 = 1)) ∧ ¬ (((a.s0 = 1) ∧ (b.s0 = 1)) ∧ (c.s1 = 1))

/-- gemm.hpp:69 -/
abbrev gemm_n_nn.guard_2 (a b c : Mat) : Prop :=
  ¬ (a.n0 = 0) ∧ ¬ (((a.s1 = 1) ∧ (b.s1 = 1)) ∧ (c.s1 = 1)) ∧ ¬ (((a.s1 = 1) ∧ (b.s1 = 1)) ∧ (c.s0 = 1)) ∧ ¬ (((a.s0 = 1) ∧ (b.s1 = 1)) ∧ (c.s1 = 1)) ∧ ¬ (((a.s0 = 1) ∧ (b.s1 = 1)) ∧ (c.s0 = 1)) ∧ ¬ (((a.s1 = 1) ∧ (b.s0 = 1)) ∧ (c.s0 = 1)) ∧ ¬ (((a.s1 = 1) ∧ (b.s0 = 1)) ∧ (c.s1 = 1)) ∧ (((a.s0 = 1) ∧ (b.s0 = 1)) ∧ (c.s0 = 1))

def gemm_n_nn.call_2 {R : Type} [CRing R] (alpha beta : R) (a b c : Mat) : Call R :=
  Call.gemm ⟨'N', 'N', (a.n0), (b.n1), (a.n1), alpha, (a.base), (legalLd (a.s1) (a.n0)), (b.base), (legalLd (b.s1) (a.n1)), beta, (c.base), (legalLd (c.s1) (a.n0))⟩

/-- gemm.hpp:71 -/
abbrev gemm_n_nn.guard_3 (a b c : Mat) : Prop :=
  ¬ (a.n0 = 0) ∧ ¬ (((a.s1 = 1) ∧ (b.s1 = 1)) ∧ (c.s1 = 1)) ∧ ¬ (((a.s1 = 1) ∧ (b.s1 = 1)) ∧ (c.s0 = 1)) ∧ ¬ (((a.s0 = 1) ∧ (b.s1 = 1)) ∧ (c.s1 = 1)) ∧ ¬ (((a.s0 = 1) ∧ (b.s1 = 1)) ∧ (c.s0 = 1)) ∧ ¬ (((a.s1 = 1) ∧ (b.s0 = 1)) ∧ (c.s0 = 1)) ∧ ¬ (((a.s1 = 1) ∧ (b.s0 = 1)) ∧ (c.s1 = 1)) ∧ ¬ (((a.s0 = 1) ∧ (b.s0 = 1)) ∧ (c.s0 = 1)) ∧ (((a.s0 = 1) ∧ (b.s0 = 1)) ∧ (c.s1 = 1))

def gemm_n_nn.call_3 {R : Type} [CRing R] (alpha beta : R) (a b c : Mat) : Call R :=
  Call.gemm ⟨'T', 'T', (b.n1), (a.n0), (a.n1), alpha, (b.base), (legalLd (b.s1) (a.n1)), (a.base), (legalLd (a.s1) (a.n0)), beta, (c.base), (legalLd (c.s0) (b.n1))⟩

/-- gemm.hpp:63 -/
abbrev gemm_n_nn.guard_4 (a b c : Mat) : Prop :=
  ¬ (a.n0 = 0) ∧ ¬ (((a.s1 = 1) ∧ (b.s1 = 1)) ∧ (c.s1 = 1)) ∧ ¬ (((a.s1 = 1) ∧ (b.s1 = 1)) ∧ (c.s0 = 1)) ∧ ¬ (((a.s0 = 1) ∧ (b.s1 = 1)) ∧ (c.s1 = 1)) ∧ (((a.s0 = 1) ∧ (b.s1 = 1)) ∧ (c.s0 = 1))

def gemm_n_nn.call_4 {R : Type} [CRing R] (alpha beta : R) (a b c : Mat) : Call R :=
  Call.gemm ⟨'N', 'T', (a.n0), (b.n1), (a.n1), alpha, (a.base), (legalLd (a.s1) (a.n0)), (b.base), (legalLd (b.s0) (b.n1)), beta, (c.base), (legalLd (c.s1) (a.n0))⟩

/-- gemm.hpp:61 -/
abbrev gemm_n_nn.guard_5 (a b c : Mat) : Prop :=
  ¬ (a.n0 = 0) ∧ ¬ (((a.s1 = 1) ∧ (b.s1 = 1)) ∧ (c.s1 = 1)) ∧ ¬ (((a.s1 = 1) ∧ (b.s1 = 1)) ∧ (c.s0 = 1)) ∧ (((a.s0 = 1) ∧ (b.s1 = 1)) ∧ (c.s1 = 1))

def gemm_n_nn.call_5 {R : Type} [CRing R] (alpha beta : R) (a b c : Mat) : Call R :=
  Call.gemm ⟨'N', 'T', (c.n1), (a.n0), (a.n1), alpha, (b.base), (legalLd (b.s0) (c.n1)), (a.base), (legalLd (a.s1) (a.n0)), beta, (c.base), (legalLd (c.s0) (c.n1))⟩

/-- gemm.hpp:65 -/
abbrev gemm_n_nn.guard_6 (a b c : Mat) : Prop :=
  ¬ (a.n0 = 0) ∧ ¬ (((a.s1 = 1) ∧ (b.s1 = 1)) ∧ (c.s1 = 1)) ∧ ¬ (((a.s1 = 1) ∧ (b.s1 = 1)) ∧ (c.s0 = 1)) ∧ ¬ (((a.s0 = 1) ∧ (b.s1 = 1)) ∧ (c.s1 = 1)) ∧ ¬ (((a.s0 = 1) ∧ (b.s1 = 1)) ∧ (c.s0 = 1)) ∧ (((a.s1 = 1) ∧ (b.s0 = 1)) ∧ (c.s0 = 1))

def gemm_n_nn.call_6 {R : Type} [CRing R] (alpha beta : R) (a b c : Mat) : Call R :=
  Call.gemm ⟨'T', 'N', (a.n0), (b.n1), (a.n1), alpha, (a.base), (legalLd (a.s0) (a.n1)), (b.base), (legalLd (b.s1) (a.n1)), beta, (c.base), (legalLd (c.s1) (a.n0))⟩

/-- gemm.hpp:67 -/
abbrev gemm_n_nn.guard_7 (a b c : Mat) : Prop :=
  ¬ (a.n0 = 0) ∧ ¬ (((a.s1 = 1) ∧ (b.s1 = 1)) ∧ (c.s1 = 1)) ∧ ¬ (((a.s1 = 1) ∧ (b.s1 = 1)) ∧ (c.s0 = 1)) ∧ ¬ (((a.s0 = 1) ∧ (b.s1 = 1)) ∧ (c.s1 = 1)) ∧ ¬ (((a.s0 = 1) ∧ (b.s1 = 1)) ∧ (c.s0 = 1)) ∧ ¬ (((a.s1 = 1) ∧ (b.s0 = 1)) ∧ (c.s0 = 1)) ∧ (((a.s1 = 1) ∧ (b.s0 = 1)) ∧ (c.s1 = 1))

def gemm_n_nn.call_7 {R : Type} [CRing R] (alpha beta : R) (a b c : Mat) : Call R :=
  Call.gemm ⟨'T', 'N', (c.n1), (a.n0), (a.n1), alpha, (b.base), (legalLd (b.s1) (a.n1)), (a.base), (legalLd (a.s0) (a.n1)), beta, (c.base), (legalLd (c.s0) (c.n1))⟩

/-- gemm.hpp:59 -/
abbrev gemm_n_nn.guard_8 (a b c : Mat) : Prop :=
  ¬ (a.n0 = 0) ∧ ¬ (((a.s1 = 1) ∧ (b.s1 = 1)) ∧ (c.s1 = 1)) ∧ (((a.s1 = 1) ∧ (b.s1 = 1)) ∧ (c.s0 = 1))

def gemm_n_nn.call_8 {R : Type} [CRing R] (alpha beta : R) (a b c : Mat) : Call R :=
  Call.gemm ⟨'T', 'T', (a.n0), (b.n1), (a.n1), alpha, (a.base), (legalLd (a.s0) (a.n1)), (b.base), (legalLd (b.s0) (b.n1)), beta, (c.base), (legalLd (c.s1) (a.n0))⟩

/-- gemm.hpp:57 -/
abbrev gemm_n_nn.guard_9 (a b c : Mat) : Prop :=
  ¬ (a.n0 = 0) ∧ (((a.s1 = 1) ∧ (b.s1 = 1)) ∧ (c.s1 = 1))

def gemm_n_nn.call_9 {R : Type} [CRing R] (alpha beta : R) (a b c : Mat) : Call R :=
  Call.gemm ⟨'N', 'N', (b.n1), (a.n0), (a.n1), alpha, (b.base), (legalLd (b.s0) (b.n1)), (a.base), (legalLd (a.s0) (a.n1)), beta, (c.base), (legalLd (c.s0) (b.n1))⟩

def gemm_n_nn {R : Type} [CRing R] (nd : Bool) (alpha beta : R) (a b c : Mat) : Outcome R :=
  if ¬ nd = true ∧ ¬ (b.n1 = c.n1) then
    .assertFail 0
  else
    if ¬ nd = true ∧ ¬ ((a.s0 = 1) ∨ (a.s1 = 1)) then
      .assertFail 0
    else
      if ¬ nd = true ∧ ¬ ((b.s0 = 1) ∨ (b.s1 = 1)) then
        .assertFail 0
      else
        if ¬ nd = true ∧ ¬ ((c.s0 = 1) ∨ (c.s1 = 1)) then
          .assertFail 0
        else
          if (a.n0 = 0) then
            .nop 0
          else
            if (((a.s1 = 1) ∧ (b.s1 = 1)) ∧ (c.s1 = 1)) then
              .call 9 (gemm_n_nn.call_9 alpha beta a b c)
            else
              if (((a.s1 = 1) ∧ (b.s1 = 1)) ∧ (c.s0 = 1)) then
                .call 8 (gemm_n_nn.call_8 alpha beta a b c)
              else
                if (((a.s0 = 1) ∧ (b.s1 = 1)) ∧ (c.s1 = 1)) then
                  .call 5 (gemm_n_nn.call_5 alpha beta a b c)
                else
                  if (((a.s0 = 1) ∧ (b.s1 = 1)) ∧ (c.s0 = 1)) then
                    .call 4 (gemm_n_nn.call_4 alpha beta a b c)
                  else
                    if (((a.s1 = 1) ∧ (b.s0 = 1)) ∧ (c.s0 = 1)) then
                      .call 6 (gemm_n_nn.call_6 alpha beta a b c)
                    else
                      if (((a.s1 = 1) ∧ (b.s0 = 1)) ∧ (c.s1 = 1)) then
                        .call 7 (gemm_n_nn.call_7 alpha beta a b c)
                      else
                        if (((a.s0 = 1) ∧ (b.s0 = 1)) ∧ (c.s0 = 1)) then
                          .call 2 (gemm_n_nn.call_2 alpha beta a b c)
                        else
                          if (((a.s0 = 1) ∧ (b.s0 = 1)) ∧ (c.s1 = 1)) then
                            .call 3 (gemm_n_nn.call_3 alpha beta a b c)
                          else
                            if nd = true then
                              .nop 0
                            else
                              .assertFail 1

/-- case analysis principle for `gemm_n_nn` (generated, checked by Lean) -/
theorem gemm_n_nn.elim {R : Type} [CRing R] {nd : Bool} {alpha beta : R} {a b c : Mat} {t : Nat} {cl : Call R}
    (h : gemm_n_nn nd alpha beta a b c = .call t cl) (P : Nat → Call R → Prop)
    (h2 : gemm_n_nn.guard_2 a b c → P 2 (gemm_n_nn.call_2 alpha beta a b c))
    (h3 : gemm_n_nn.guard_3 a b c → P 3 (gemm_n_nn.call_3 alpha beta a b c))
    (h4 : gemm_n_nn.guard_4 a b c → P 4 (gemm_n_nn.call_4 alpha beta a b c))
    (h5 : gemm_n_nn.guard_5 a b c → P 5 (gemm_n_nn.call_5 alpha beta a b c))
    (h6 : gemm_n_nn.guard_6 a b c → P 6 (gemm_n_nn.call_6 alpha beta a b c))
    (h7 : gemm_n_nn.guard_7 a b c → P 7 (gemm_n_nn.call_7 alpha beta a b c))
    (h8 : gemm_n_nn.guard_8 a b c → P 8 (gemm_n_nn.call_8 alpha beta a b c))
    (h9 : gemm_n_nn.guard_9 a b c → P 9 (gemm_n_nn.call_9 alpha beta a b c)) : P t cl := by
  unfold gemm_n_nn at h
  exact ite_eq_elim h (fun _ h => nomatch h) fun _ h =>
  ite_eq_elim h (fun _ h => nomatch h) fun _ h =>
  ite_eq_elim h (fun _ h => nomatch h) fun _ h =>
  ite_eq_elim h (fun _ h => nomatch h) fun _ h =>
  ite_eq_elim h (fun _ h => nomatch h) fun c5 h =>
  ite_eq_elim h (fun c6 h => call_eq_elim h (h9 ⟨c5, c6⟩)) fun c6 h =>
  ite_eq_elim h (fun c7 h => call_eq_elim h (h8 ⟨c5, c6, c7⟩)) fun c7 h =>
  ite_eq_elim h (fun c8 h => call_eq_elim h (h5 ⟨c5, c6, c7, c8⟩)) fun c8 h =>
  ite_eq_elim h (fun c9 h => call_eq_elim h (h4 ⟨c5, c6, c7, c8, c9⟩)) fun c9 h =>
  ite_eq_elim h (fun c10 h => call_eq_elim h (h6 ⟨c5, c6, c7, c8, c9, c10⟩)) fun c10 h =>
  ite_eq_elim h (fun c11 h => call_eq_elim h (h7 ⟨c5, c6, c7, c8, c9, c10, c11⟩)) fun c11 h =>
  ite_eq_elim h (fun c12 h => call_eq_elim h (h2 ⟨c5, c6, c7, c8, c9, c10, c11, c12⟩)) fun c12 h =>
  ite_eq_elim h (fun c13 h => call_eq_elim h (h3 ⟨c5, c6, c7, c8, c9, c10, c11, c12, c13⟩)) fun _ h =>
  ite_eq_elim h (fun _ h => nomatch h) fun _ h =>
  nomatch h

/-- which assertion fired when `gemm_n_nn` aborts (generated, checked by Lean) -/
theorem gemm_n_nn.elimAssert {R : Type} [CRing R] {nd : Bool} {alpha beta : R} {a b c : Mat} {t : Nat}
    (h : gemm_n_nn nd alpha beta a b c = .assertFail t) (P : Prop)
    (hp0 : (¬ nd = true ∧ ¬ (b.n1 = c.n1)) → P)
    (hp1 : (¬ nd = true ∧ ¬ ((a.s0 = 1) ∨ (a.s1 = 1))) → P)
    (hp2 : (¬ nd = true ∧ ¬ ((b.s0 = 1) ∨ (b.s1 = 1))) → P)
    (hp3 : (¬ nd = true ∧ ¬ ((c.s0 = 1) ∨ (c.s1 = 1))) → P)
    (ha1 : gemm_n_nn.guard_1 a b c → P) : P := by
  unfold gemm_n_nn at h
  exact ite_eq_elim h (fun c1 h => hp0 c1) fun _ h =>
  ite_eq_elim h (fun c2 h => hp1 c2) fun _ h =>
  ite_eq_elim h (fun c3 h => hp2 c3) fun _ h =>
  ite_eq_elim h (fun c4 h => hp3 c4) fun _ h =>
  ite_eq_elim h (fun _ h => nomatch h) fun c5 h =>
  ite_eq_elim h (fun _ h => nomatch h) fun c6 h =>
  ite_eq_elim h (fun _ h => nomatch h) fun c7 h =>
  ite_eq_elim h (fun _ h => nomatch h) fun c8 h =>
  ite_eq_elim h (fun _ h => nomatch h) fun c9 h =>
  ite_eq_elim h (fun _ h => nomatch h) fun c10 h =>
  ite_eq_elim h (fun _ h => nomatch h) fun c11 h =>
  ite_eq_elim h (fun _ h => nomatch h) fun c12 h =>
  ite_eq_elim h (fun _ h => nomatch h) fun c13 h =>
  ite_eq_elim h (fun _ h => nomatch h) fun _ h =>
  ha1 ⟨c5, c6, c7, c8, c9, c10, c11, c12, c13⟩

/-! ### `gemm_n_nc` — gemm.hpp:80
overload for is_conjugated<A> = False, is_conjugated<B> = True

| ordinal | source line | kind | own guards |
|---|---|---|---|
| 1 | 92 | throw | ¬ (a.n0 = 0) ; ¬ (((a.s1 = 1) ∧ (b.s0 = 1)) ∧ (c.s1 = 1)) ; ¬ (((a.s0 = 1) ∧ (b.s0 = 1)) ∧ (c.s1 = 1)) |
| 2 | 91 | call | ¬ (a.n0 = 0) ; ¬ (((a.s1 = 1) ∧ (b.s0 = 1)) ∧ (c.s1 = 1)) ; (((a.s0 = 1) ∧ (b.s0 = 1)) ∧ (c.s1 = 1)) |
| 3 | 89 | call | ¬ (a.n0 = 0) ; (((a.s1 = 1) ∧ (b.s0 = 1)) ∧ (c.s1 = 1)) |
-/

/-- gemm.hpp:92 -/
abbrev gemm_n_nc.guard_1 (a b c : Mat) : Prop :=
  ¬ (a.n0 = 0) ∧ ¬ (((a.s1 = 1) ∧ (b.s0 = 1)) ∧ (c.s1 = 1)) ∧ ¬ (((a.s0 = 1) ∧ (b.s0 = 1)) ∧ (c.s1 = 1))

/-- gemm.hpp:91 -/
abbrev gemm_n_nc.guard_2 (a b c : Mat) : Prop :=
  ¬ (a.n0 = 0) ∧ ¬ (((a.s1 = 1) ∧ (b.s0 = 1)) ∧ (c.s1 = 1)) ∧ (((a.s0 = 1) ∧ (b.s0 = 1)) ∧ (c.s1 = 1))

def gemm_n_nc.call_2 {R : Type} [CRing R] (alpha beta : R) (a b c : Mat) : Call R :=
  Call.gemm ⟨'C', 'T', (c.n1), (a.n0), (a.n1), alpha, (b.base), (legalLd (b.s1) (a.n1)), (a.base), (legalLd (a.s1) (a.n0)), beta, (c.base), (legalLd (c.s0) (c.n1))⟩

/-- gemm.hpp:89 -/
abbrev gemm_n_nc.guard_3 (a b c : Mat) : Prop :=
  ¬ (a.n0 = 0) ∧ (((a.s1 = 1) ∧ (b.s0 = 1)) ∧ (c.s1 = 1))

def gemm_n_nc.call_3 {R : Type} [CRing R] (alpha beta : R) (a b c : Mat) : Call R :=
  Call.gemm ⟨'C', 'N', (c.n1), (a.n0), (a.n1), alpha, (b.base), (legalLd (b.s1) (a.n1)), (a.base), (legalLd (a.s0) (a.n1)), beta, (c.base), (legalLd (c.s0) (c.n1))⟩

def gemm_n_nc {R : Type} [CRing R] (nd : Bool) (alpha beta : R) (a b c : Mat) : Outcome R :=
  if ¬ nd = true ∧ ¬ (b.n1 = c.n1) then
    .assertFail 0
  else
    if ¬ nd = true ∧ ¬ ((a.s0 = 1) ∨ (a.s1 = 1)) then
      .assertFail 0
    else
      if ¬ nd = true ∧ ¬ ((b.s0 = 1) ∨ (b.s1 = 1)) then
        .assertFail 0
      else
        if ¬ nd = true ∧ ¬ ((c.s0 = 1) ∨ (c.s1 = 1)) then
          .assertFail 0
        else
          if (a.n0 = 0) then
            .nop 0
          else
            if (((a.s1 = 1) ∧ (b.s0 = 1)) ∧ (c.s1 = 1)) then
              .call 3 (gemm_n_nc.call_3 alpha beta a b c)
            else
              if (((a.s0 = 1) ∧ (b.s0 = 1)) ∧ (c.s1 = 1)) then
                .call 2 (gemm_n_nc.call_2 alpha beta a b c)
              else
                .throw 1

/-- case analysis principle for `gemm_n_nc` (generated, checked by Lean) -/
theorem gemm_n_nc.elim {R : Type} [CRing R] {nd : Bool} {alpha beta : R} {a b c : Mat} {t : Nat} {cl : Call R}
    (h : gemm_n_nc nd alpha beta a b c = .call t cl) (P : Nat → Call R → Prop)
    (h2 : gemm_n_nc.guard_2 a b c → P 2 (gemm_n_nc.call_2 alpha beta a b c))
    (h3 : gemm_n_nc.guard_3 a b c → P 3 (gemm_n_nc.call_3 alpha beta a b c)) : P t cl := by
  unfold gemm_n_nc at h
  exact ite_eq_elim h (fun _ h => nomatch h) fun _ h =>
  ite_eq_elim h (fun _ h => nomatch h) fun _ h =>
  ite_eq_elim h (fun _ h => nomatch h) fun _ h =>
  ite_eq_elim h (fun _ h => nomatch h) fun _ h =>
  ite_eq_elim h (fun _ h => nomatch h) fun c5 h =>
  ite_eq_elim h (fun c6 h => call_eq_elim h (h3 ⟨c5, c6⟩)) fun c6 h =>
  ite_eq_elim h (fun c7 h => call_eq_elim h (h2 ⟨c5, c6, c7⟩)) fun _ h =>
  nomatch h

/-- which assertion fired when `gemm_n_nc` aborts (generated, checked by Lean) -/
theorem gemm_n_nc.elimAssert {R : Type} [CRing R] {nd : Bool} {alpha beta : R} {a b c : Mat} {t : Nat}
    (h : gemm_n_nc nd alpha beta a b c = .assertFail t) (P : Prop)
    (hp0 : (¬ nd = true ∧ ¬ (b.n1 = c.n1)) → P)
    (hp1 : (¬ nd = true ∧ ¬ ((a.s0 = 1) ∨ (a.s1 = 1))) → P)
    (hp2 : (¬ nd = true ∧ ¬ ((b.s0 = 1) ∨ (b.s1 = 1))) → P)
    (hp3 : (¬ nd = true ∧ ¬ ((c.s0 = 1) ∨ (c.s1 = 1))) → P) : P := by
  unfold gemm_n_nc at h
  exact ite_eq_elim h (fun c1 h => hp0 c1) fun _ h =>
  ite_eq_elim h (fun c2 h => hp1 c2) fun _ h =>
  ite_eq_elim h (fun c3 h => hp2 c3) fun _ h =>
  ite_eq_elim h (fun c4 h => hp3 c4) fun _ h =>
  ite_eq_elim h (fun _ h => nomatch h) fun _ h =>
  ite_eq_elim h (fun _ h => nomatch h) fun _ h =>
  ite_eq_elim h (fun _ h => nomatch h) fun _ h =>
  nomatch h

/-! ### `gemm_n_cn` — gemm.hpp:100
overload for is_conjugated<A> = True, is_conjugated<B> = False

| ordinal | source line | kind | own guards |
|---|---|---|---|
| 1 | 110 | throw | ¬ (a.n0 = 0) ; ¬ (((a.s0 = 1) ∧ (b.s1 = 1)) ∧ (c.s1 = 1)) |
| 2 | 109 | call | ¬ (a.n0 = 0) ; (((a.s0 = 1) ∧ (b.s1 = 1)) ∧ (c.s1 = 1)) |
-/

/-- gemm.hpp:110 -/
abbrev gemm_n_cn.guard_1 (a b c : Mat) : Prop :=
  ¬ (a.n0 = 0) ∧ ¬ (((a.s0 = 1) ∧ (b.s1 = 1)) ∧ (c.s1 = 1))

/-- gemm.hpp:109 -/
abbrev gemm_n_cn.guard_2 (a b c : Mat) : Prop :=
  ¬ (a.n0 = 0) ∧ (((a.s0 = 1) ∧ (b.s1 = 1)) ∧ (c.s1 = 1))

def gemm_n_cn.call_2 {R : Type} [CRing R] (alpha beta : R) (a b c : Mat) : Call R :=
  Call.gemm ⟨'N', 'C', (c.n1), (a.n0), (a.n1), alpha, (b.base), (legalLd (b.s0) (c.n1)), (a.base), (legalLd (a.s1) (a.n0)), beta, (c.base), (legalLd (c.s0) (c.n1))⟩

def gemm_n_cn {R : Type} [CRing R] (nd : Bool) (alpha beta : R) (a b c : Mat) : Outcome R :=
  if ¬ nd = true ∧ ¬ (b.n1 = c.n1) then
    .assertFail 0
  else
    if ¬ nd = true ∧ ¬ ((a.s0 = 1) ∨ (a.s1 = 1)) then
      .assertFail 0
    else
      if ¬ nd = true ∧ ¬ ((b.s0 = 1) ∨ (b.s1 = 1)) then
        .assertFail 0
      else
        if ¬ nd = true ∧ ¬ ((c.s0 = 1) ∨ (c.s1 = 1)) then
          .assertFail 0
        else
          if (a.n0 = 0) then
            .nop 0
          else
            if (((a.s0 = 1) ∧ (b.s1 = 1)) ∧ (c.s1 = 1)) then
              .call 2 (gemm_n_cn.call_2 alpha beta a b c)
            else
              .throw 1

/-- case analysis principle for `gemm_n_cn` (generated, checked by Lean) -/
theorem gemm_n_cn.elim {R : Type} [CRing R] {nd : Bool} {alpha beta : R} {a b c : Mat} {t : Nat} {cl : Call R}
    (h : gemm_n_cn nd alpha beta a b c = .call t cl) (P : Nat → Call R → Prop)
    (h2 : gemm_n_cn.guard_2 a b c → P 2 (gemm_n_cn.call_2 alpha beta a b c)) : P t cl := by
  unfold gemm_n_cn at h
  exact ite_eq_elim h (fun _ h => nomatch h) fun _ h =>
  ite_eq_elim h (fun _ h => nomatch h) fun _ h =>
  ite_eq_elim h (fun _ h => nomatch h) fun _ h =>
  ite_eq_elim h (fun _ h => nomatch h) fun _ h =>
  ite_eq_elim h (fun _ h => nomatch h) fun c5 h =>
  ite_eq_elim h (fun c6 h => call_eq_elim h (h2 ⟨c5, c6⟩)) fun _ h =>
  nomatch h

/-- which assertion fired when `gemm_n_cn` aborts (generated, checked by Lean) -/
theorem gemm_n_cn.elimAssert {R : Type} [CRing R] {nd : Bool} {alpha beta : R} {a b c : Mat} {t : Nat}
    (h : gemm_n_cn nd alpha beta a b c = .assertFail t) (P : Prop)
    (hp0 : (¬ nd = true ∧ ¬ (b.n1 = c.n1)) → P)
    (hp1 : (¬ nd = true ∧ ¬ ((a.s0 = 1) ∨ (a.s1 = 1))) → P)
    (hp2 : (¬ nd = true ∧ ¬ ((b.s0 = 1) ∨ (b.s1 = 1))) → P)
    (hp3 : (¬ nd = true ∧ ¬ ((c.s0 = 1) ∨ (c.s1 = 1))) → P) : P := by
  unfold gemm_n_cn at h
  exact ite_eq_elim h (fun c1 h => hp0 c1) fun _ h =>
  ite_eq_elim h (fun c2 h => hp1 c2) fun _ h =>
  ite_eq_elim h (fun c3 h => hp2 c3) fun _ h =>
  ite_eq_elim h (fun c4 h => hp3 c4) fun _ h =>
  ite_eq_elim h (fun _ h => nomatch h) fun _ h =>
  ite_eq_elim h (fun _ h => nomatch h) fun _ h =>
  nomatch h

/-! ### `gemm_n_cc` — gemm.hpp:118
overload for is_conjugated<A> = True, is_conjugated<B> = True

| ordinal | source line | kind | own guards |
|---|---|---|---|
| 1 | 127 | throw | ¬ (a.n0 = 0) ; ¬ (((a.s0 = 1) ∧ (b.s0 = 1)) ∧ (c.s1 = 1)) |
| 2 | 126 | call | ¬ (a.n0 = 0) ; (((a.s0 = 1) ∧ (b.s0 = 1)) ∧ (c.s1 = 1)) |
-/

/-- gemm.hpp:127 -/
abbrev gemm_n_cc.guard_1 (a b c : Mat) : Prop :=
  ¬ (a.n0 = 0) ∧ ¬ (((a.s0 = 1) ∧ (b.s0 = 1)) ∧ (c.s1 = 1))

/-- gemm.hpp:126 -/
abbrev gemm_n_cc.guard_2 (a b c : Mat) : Prop :=
  ¬ (a.n0 = 0) ∧ (((a.s0 = 1) ∧ (b.s0 = 1)) ∧ (c.s1 = 1))

def gemm_n_cc.call_2 {R : Type} [CRing R] (alpha beta : R) (a b c : Mat) : Call R :=
  Call.gemm ⟨'C', 'C', (c.n1), (a.n0), (a.n1), alpha, (b.base), (legalLd (b.s1) (a.n1)), (a.base), (legalLd (a.s1) (a.n0)), beta, (c.base), (legalLd (c.s0) (c.n1))⟩

def gemm_n_cc {R : Type} [CRing R] (nd : Bool) (alpha beta : R) (a b c : Mat) : Outcome R :=
  if ¬ nd = true ∧ ¬ (b.n1 = c.n1) then
    .assertFail 0
  else
    if ¬ nd = true ∧ ¬ ((a.s0 = 1) ∨ (a.s1 = 1)) then
      .assertFail 0
    else
      if ¬ nd = true ∧ ¬ ((b.s0 = 1) ∨ (b.s1 = 1)) then
        .assertFail 0
      else
        if ¬ nd = true ∧ ¬ ((c.s0 = 1) ∨ (c.s1 = 1)) then
          .assertFail 0
        else
          if (a.n0 = 0) then
            .nop 0
          else
            if (((a.s0 = 1) ∧ (b.s0 = 1)) ∧ (c.s1 = 1)) then
              .call 2 (gemm_n_cc.call_2 alpha beta a b c)
            else
              .throw 1

/-- case analysis principle for `gemm_n_cc` (generated, checked by Lean) -/
theorem gemm_n_cc.elim {R : Type} [CRing R] {nd : Bool} {alpha beta : R} {a b c : Mat} {t : Nat} {cl : Call R}
    (h : gemm_n_cc nd alpha beta a b c = .call t cl) (P : Nat → Call R → Prop)
    (h2 : gemm_n_cc.guard_2 a b c → P 2 (gemm_n_cc.call_2 alpha beta a b c)) : P t cl := by
  unfold gemm_n_cc at h
  exact ite_eq_elim h (fun _ h => nomatch h) fun _ h =>
  ite_eq_elim h (fun _ h => nomatch h) fun _ h =>
  ite_eq_elim h (fun _ h => nomatch h) fun _ h =>
  ite_eq_elim h (fun _ h => nomatch h) fun _ h =>
  ite_eq_elim h (fun _ h => nomatch h) fun c5 h =>
  ite_eq_elim h (fun c6 h => call_eq_elim h (h2 ⟨c5, c6⟩)) fun _ h =>
  nomatch h

/-- which assertion fired when `gemm_n_cc` aborts (generated, checked by Lean) -/
theorem gemm_n_cc.elimAssert {R : Type} [CRing R] {nd : Bool} {alpha beta : R} {a b c : Mat} {t : Nat}
    (h : gemm_n_cc nd alpha beta a b c = .assertFail t) (P : Prop)
    (hp0 : (¬ nd = true ∧ ¬ (b.n1 = c.n1)) → P)
    (hp1 : (¬ nd = true ∧ ¬ ((a.s0 = 1) ∨ (a.s1 = 1))) → P)
    (hp2 : (¬ nd = true ∧ ¬ ((b.s0 = 1) ∨ (b.s1 = 1))) → P)
    (hp3 : (¬ nd = true ∧ ¬ ((c.s0 = 1) ∨ (c.s1 = 1))) → P) : P := by
  unfold gemm_n_cc at h
  exact ite_eq_elim h (fun c1 h => hp0 c1) fun _ h =>
  ite_eq_elim h (fun c2 h => hp1 c2) fun _ h =>
  ite_eq_elim h (fun c3 h => hp2 c3) fun _ h =>
  ite_eq_elim h (fun c4 h => hp3 c4) fun _ h =>
  ite_eq_elim h (fun _ h => nomatch h) fun _ h =>
  ite_eq_elim h (fun _ h => nomatch h) fun _ h =>
  nomatch h

/-- overload resolution of `gemm_n` on the conjugation of A and B (gemm.hpp: the four `enable_if_t` headers) -/
def gemm_n {R : Type} [CRing R] (nd : Bool) (alpha beta : R) (a b c : Mat) : Outcome R :=
  match a.cj, b.cj with
  | false, false => gemm_n_nn nd alpha beta a b c
  | false, true => gemm_n_nc nd alpha beta a b c
  | true, false => gemm_n_cn nd alpha beta a b c
  | true, true => gemm_n_cc nd alpha beta a b c

/-! ### `gemv_n` — gemv.hpp:22
y := a M x + b y; `a`,`b` are the scalars

| ordinal | source line | kind | own guards |
|---|---|---|---|
| 1 | 35 | assert0 | ¬ (m.n1 = 0) ; ¬ ¬ (m.cj = true) ; ¬ (m.s1 = 1) |
| 2 | 28 | call | (m.n1 = 0) |
| 3 | 34 | call | ¬ (m.n1 = 0) ; ¬ ¬ (m.cj = true) ; (m.s1 = 1) |
| 4 | 32 | assert0 | ¬ (m.n1 = 0) ; ¬ (m.cj = true) ; ¬ (m.s0 = 1) ; ¬ (m.s1 = 1) |
| 5 | 30 | call | ¬ (m.n1 = 0) ; ¬ (m.cj = true) ; (m.s0 = 1) |
| 6 | 31 | call | ¬ (m.n1 = 0) ; ¬ (m.cj = true) ; ¬ (m.s0 = 1) ; (m.s1 = 1) |
-/

/-- gemv.hpp:35 -/
abbrev gemv_n.guard_1 (m : Mat) (x y : Vec) : Prop :=
  ¬ (m.n1 = 0) ∧ ¬ ¬ (m.cj = true) ∧ ¬ (m.s1 = 1)

/-- gemv.hpp:28 -/
abbrev gemv_n.guard_2 (m : Mat) (x y : Vec) : Prop :=
  (m.n1 = 0)

def gemv_n.call_2 {R : Type} [CRing R] (alpha beta : R) (m : Mat) (x y : Vec) : Call R :=
  Call.scal ⟨(m.n0), beta, (y.base), (y.inc), 0, 0⟩

/-- gemv.hpp:34 -/
abbrev gemv_n.guard_3 (m : Mat) (x y : Vec) : Prop :=
  ¬ (m.n1 = 0) ∧ ¬ ¬ (m.cj = true) ∧ (m.s1 = 1)

def gemv_n.call_3 {R : Type} [CRing R] (alpha beta : R) (m : Mat) (x y : Vec) : Call R :=
  Call.gemv ⟨'C', (m.n1), (m.n0), alpha, (m.base), (legalLd (m.s0) (m.n1)), (x.base), (x.inc), beta, (y.base), (y.inc)⟩

/-- gemv.hpp:32 -/
abbrev gemv_n.guard_4 (m : Mat) (x y : Vec) : Prop :=
  ¬ (m.n1 = 0) ∧ ¬ (m.cj = true) ∧ ¬ (m.s0 = 1) ∧ ¬ (m.s1 = 1)

/-- gemv.hpp:30 -/
abbrev gemv_n.guard_5 (m : Mat) (x y : Vec) : Prop :=
  ¬ (m.n1 = 0) ∧ ¬ (m.cj = true) ∧ (m.s0 = 1)

def gemv_n.call_5 {R : Type} [CRing R] (alpha beta : R) (m : Mat) (x y : Vec) : Call R :=
  Call.gemv ⟨'N', (m.n0), (m.n1), alpha, (m.base), (legalLd (m.s1) (m.n0)), (x.base), (x.inc), beta, (y.base), (y.inc)⟩

/-- gemv.hpp:31 -/
abbrev gemv_n.guard_6 (m : Mat) (x y : Vec) : Prop :=
  ¬ (m.n1 = 0) ∧ ¬ (m.cj = true) ∧ ¬ (m.s0 = 1) ∧ (m.s1 = 1)

def gemv_n.call_6 {R : Type} [CRing R] (alpha beta : R) (m : Mat) (x y : Vec) : Call R :=
  Call.gemv ⟨'T', (m.n1), (m.n0), alpha, (m.base), (legalLd (m.s0) (m.n1)), (x.base), (x.inc), beta, (y.base), (y.inc)⟩

def gemv_n {R : Type} [CRing R] (nd : Bool) (alpha beta : R) (m : Mat) (x y : Vec) : Outcome R :=
  if ¬ nd = true ∧ ¬ ((m.s1 = 1) ∨ (m.s0 = 1)) then
    .assertFail 0
  else
    if ¬ nd = true ∧ ¬ (x.base ≠ y.base) then
      .assertFail 0
    else
      if ¬ nd = true ∧ ¬ (y.inc ≠ 0) then
        .assertFail 0
      else
        if (m.n1 = 0) then
          .call 2 (gemv_n.call_2 alpha beta m x y)
        else
          if ¬ (m.cj = true) then
            if (m.s0 = 1) then
              .call 5 (gemv_n.call_5 alpha beta m x y)
            else
              if (m.s1 = 1) then
                .call 6 (gemv_n.call_6 alpha beta m x y)
              else
                if nd = true then
                  .nop 0
                else
                  .assertFail 4
          else
            if (m.s1 = 1) then
              .call 3 (gemv_n.call_3 alpha beta m x y)
            else
              if nd = true then
                .nop 0
              else
                .assertFail 1

/-- case analysis principle for `gemv_n` (generated, checked by Lean) -/
theorem gemv_n.elim {R : Type} [CRing R] {nd : Bool} {alpha beta : R} {m : Mat} {x y : Vec} {t : Nat} {cl : Call R}
    (h : gemv_n nd alpha beta m x y = .call t cl) (P : Nat → Call R → Prop)
    (h2 : gemv_n.guard_2 m x y → P 2 (gemv_n.call_2 alpha beta m x y))
    (h3 : gemv_n.guard_3 m x y → P 3 (gemv_n.call_3 alpha beta m x y))
    (h5 : gemv_n.guard_5 m x y → P 5 (gemv_n.call_5 alpha beta m x y))
    (h6 : gemv_n.guard_6 m x y → P 6 (gemv_n.call_6 alpha beta m x y)) : P t cl := by
  unfold gemv_n at h
  exact ite_eq_elim h (fun _ h => nomatch h) fun _ h =>
  ite_eq_elim h (fun _ h => nomatch h) fun _ h =>
  ite_eq_elim h (fun _ h => nomatch h) fun _ h =>
  ite_eq_elim h (fun c4 h => call_eq_elim h (h2 c4)) fun c4 h =>
  ite_eq_elim h (fun c5 h =>
    ite_eq_elim h (fun c6 h => call_eq_elim h (h5 ⟨c4, c5, c6⟩)) fun c6 h =>
    ite_eq_elim h (fun c7 h => call_eq_elim h (h6 ⟨c4, c5, c6, c7⟩)) fun _ h =>
    ite_eq_elim h (fun _ h => nomatch h) fun _ h =>
    nomatch h) fun c5 h =>
  ite_eq_elim h (fun c9 h => call_eq_elim h (h3 ⟨c4, c5, c9⟩)) fun _ h =>
  ite_eq_elim h (fun _ h => nomatch h) fun _ h =>
  nomatch h

/-- which assertion fired when `gemv_n` aborts (generated, checked by Lean) -/
theorem gemv_n.elimAssert {R : Type} [CRing R] {nd : Bool} {alpha beta : R} {m : Mat} {x y : Vec} {t : Nat}
    (h : gemv_n nd alpha beta m x y = .assertFail t) (P : Prop)
    (hp0 : (¬ nd = true ∧ ¬ ((m.s1 = 1) ∨ (m.s0 = 1))) → P)
    (hp1 : (¬ nd = true ∧ ¬ (x.base ≠ y.base)) → P)
    (hp2 : (¬ nd = true ∧ ¬ (y.inc ≠ 0)) → P)
    (ha1 : gemv_n.guard_1 m x y → P)
    (ha4 : gemv_n.guard_4 m x y → P) : P := by
  unfold gemv_n at h
  exact ite_eq_elim h (fun c1 h => hp0 c1) fun _ h =>
  ite_eq_elim h (fun c2 h => hp1 c2) fun _ h =>
  ite_eq_elim h (fun c3 h => hp2 c3) fun _ h =>
  ite_eq_elim h (fun _ h => nomatch h) fun c4 h =>
  ite_eq_elim h (fun c5 h =>
    ite_eq_elim h (fun _ h => nomatch h) fun c6 h =>
    ite_eq_elim h (fun _ h => nomatch h) fun c7 h =>
    ite_eq_elim h (fun _ h => nomatch h) fun _ h =>
    ha4 ⟨c4, c5, c6, c7⟩) fun c5 h =>
  ite_eq_elim h (fun _ h => nomatch h) fun c9 h =>
  ite_eq_elim h (fun _ h => nomatch h) fun _ h =>
  ha1 ⟨c4, c5, c9⟩

/-! ### `syrk` — syrk.hpp:18
C := alpha A Aᵀ + beta C on the `side` triangle

| ordinal | source line | kind | own guards |
|---|---|---|---|
| 1 | 34 | call | ¬ (a.s0 = 1) ; ¬ (c.s0 = 1) |
| 2 | 28 | call | (a.s0 = 1) ; ¬ (c.s0 = 1) |
| 3 | 26 | call | (a.s0 = 1) ; (c.s0 = 1) |
| 4 | 32 | call | ¬ (a.s0 = 1) ; (c.s0 = 1) |
-/

/-- syrk.hpp:34 -/
abbrev syrk.guard_1 (side : Filling) (a c : Mat) : Prop :=
  ¬ (a.s0 = 1) ∧ ¬ (c.s0 = 1)

def syrk.call_1 {R : Type} [CRing R] (side : Filling) (alpha beta : R) (a c : Mat) : Call R :=
  Call.syrk ⟨side.char, 'T', (c.n0), (a.n1), alpha, (a.base), (legalLd (a.s0) (a.n1)), beta, (c.base), (c.s0)⟩

/-- syrk.hpp:28 -/
abbrev syrk.guard_2 (side : Filling) (a c : Mat) : Prop :=
  (a.s0 = 1) ∧ ¬ (c.s0 = 1)

def syrk.call_2 {R : Type} [CRing R] (side : Filling) (alpha beta : R) (a c : Mat) : Call R :=
  Call.syrk ⟨side.char, 'N', (c.n0), (a.n1), alpha, (a.base), (legalLd (a.s1) (c.n0)), beta, (c.base), (c.s0)⟩

/-- syrk.hpp:26 -/
abbrev syrk.guard_3 (side : Filling) (a c : Mat) : Prop :=
  (a.s0 = 1) ∧ (c.s0 = 1)

def syrk.call_3 {R : Type} [CRing R] (side : Filling) (alpha beta : R) (a c : Mat) : Call R :=
  Call.syrk ⟨side.flip.char, 'N', (c.n0), (a.n1), alpha, (a.base), (legalLd (a.s1) (c.n0)), beta, (c.base), (c.s1)⟩

/-- syrk.hpp:32 -/
abbrev syrk.guard_4 (side : Filling) (a c : Mat) : Prop :=
  ¬ (a.s0 = 1) ∧ (c.s0 = 1)

def syrk.call_4 {R : Type} [CRing R] (side : Filling) (alpha beta : R) (a c : Mat) : Call R :=
  Call.syrk ⟨side.flip.char, 'T', (c.n0), (a.n1), alpha, (a.base), (legalLd (a.s0) (a.n1)), beta, (c.base), (c.s1)⟩

def syrk {R : Type} [CRing R] (nd : Bool) (side : Filling) (alpha beta : R) (a c : Mat) : Outcome R :=
  if ¬ nd = true ∧ ¬ (c.n0 = c.n1) then
    .assertFail 0
  else
    if ¬ nd = true ∧ ¬ ((a.s0 = 1) ∨ (a.s1 = 1)) then
      .assertFail 0
    else
      if ¬ nd = true ∧ ¬ ((c.s0 = 1) ∨ (c.s1 = 1)) then
        .assertFail 0
      else
        if (a.s0 = 1) then
          if (c.s0 = 1) then
            .call 3 (syrk.call_3 side alpha beta a c)
          else
            .call 2 (syrk.call_2 side alpha beta a c)
        else
          if (c.s0 = 1) then
            .call 4 (syrk.call_4 side alpha beta a c)
          else
            .call 1 (syrk.call_1 side alpha beta a c)

/-- case analysis principle for `syrk` (generated, checked by Lean) -/
theorem syrk.elim {R : Type} [CRing R] {nd : Bool} {side : Filling} {alpha beta : R} {a c : Mat} {t : Nat} {cl : Call R}
    (h : syrk nd side alpha beta a c = .call t cl) (P : Nat → Call R → Prop)
    (h1 : syrk.guard_1 side a c → P 1 (syrk.call_1 side alpha beta a c))
    (h2 : syrk.guard_2 side a c → P 2 (syrk.call_2 side alpha beta a c))
    (h3 : syrk.guard_3 side a c → P 3 (syrk.call_3 side alpha beta a c))
    (h4 : syrk.guard_4 side a c → P 4 (syrk.call_4 side alpha beta a c)) : P t cl := by
  unfold syrk at h
  exact ite_eq_elim h (fun _ h => nomatch h) fun _ h =>
  ite_eq_elim h (fun _ h => nomatch h) fun _ h =>
  ite_eq_elim h (fun _ h => nomatch h) fun _ h =>
  ite_eq_elim h (fun c4 h =>
    ite_eq_elim h (fun c5 h => call_eq_elim h (h3 ⟨c4, c5⟩)) fun c5 h =>
    call_eq_elim h (h2 ⟨c4, c5⟩)) fun c4 h =>
  ite_eq_elim h (fun c6 h => call_eq_elim h (h4 ⟨c4, c6⟩)) fun c6 h =>
  call_eq_elim h (h1 ⟨c4, c6⟩)

/-- which assertion fired when `syrk` aborts (generated, checked by Lean) -/
theorem syrk.elimAssert {R : Type} [CRing R] {nd : Bool} {side : Filling} {alpha beta : R} {a c : Mat} {t : Nat}
    (h : syrk nd side alpha beta a c = .assertFail t) (P : Prop)
    (hp0 : (¬ nd = true ∧ ¬ (c.n0 = c.n1)) → P)
    (hp1 : (¬ nd = true ∧ ¬ ((a.s0 = 1) ∨ (a.s1 = 1))) → P)
    (hp2 : (¬ nd = true ∧ ¬ ((c.s0 = 1) ∨ (c.s1 = 1))) → P) : P := by
  unfold syrk at h
  exact ite_eq_elim h (fun c1 h => hp0 c1) fun _ h =>
  ite_eq_elim h (fun c2 h => hp1 c2) fun _ h =>
  ite_eq_elim h (fun c3 h => hp2 c3) fun _ h =>
  ite_eq_elim h (fun _ h =>
    ite_eq_elim h (fun _ h => nomatch h) fun _ h =>
    nomatch h) fun _ h =>
  ite_eq_elim h (fun _ h => nomatch h) fun _ h =>
  nomatch h

/-! ### `herk_plain` — herk.hpp:110
the complex `herk` as it runs once C is not conjugated (the `is_conjugated<C2D>` arm is then dead: a second level of recursion is a `throw` here)

| ordinal | source line | kind | own guards |
|---|---|---|---|
| 1 | 142 | call | ¬ (c.n0 = 0) ; ¬ (c.cj = true) ; ¬ (a.cj = true) ; ¬ ((a.s0 ≠ 1) ∧ (c.s0 ≠ 1)) ; ¬ ((a.s0 ≠ 1) ∧ (c.s0 = 1)) ; ¬ ((a.s0 = 1) ∧ (c.s0 ≠ 1)) ; ((a.s0 = 1) ∧ (c.s0 = 1)) |
| 2 | 141 | assert0 | ¬ (c.n0 = 0) ; ¬ (c.cj = true) ; ¬ (a.cj = true) ; ¬ ((a.s0 ≠ 1) ∧ (c.s0 ≠ 1)) ; ¬ ((a.s0 ≠ 1) ∧ (c.s0 = 1)) ; ((a.s0 = 1) ∧ (c.s0 ≠ 1)) |
| 3 | 139 | assert0 | ¬ (c.n0 = 0) ; ¬ (c.cj = true) ; ¬ (a.cj = true) ; ¬ ((a.s0 ≠ 1) ∧ (c.s0 ≠ 1)) ; ((a.s0 ≠ 1) ∧ (c.s0 = 1)) ; ¬ (a.n0 = 1) |
| 4 | 138 | call | ¬ (c.n0 = 0) ; ¬ (c.cj = true) ; ¬ (a.cj = true) ; ¬ ((a.s0 ≠ 1) ∧ (c.s0 ≠ 1)) ; ((a.s0 ≠ 1) ∧ (c.s0 = 1)) ; (a.n0 = 1) |
| 5 | 136 | call | ¬ (c.n0 = 0) ; ¬ (c.cj = true) ; ¬ (a.cj = true) ; ((a.s0 ≠ 1) ∧ (c.s0 ≠ 1)) |
| 6 | 133 | assert0 | ¬ (c.n0 = 0) ; ¬ (c.cj = true) ; (a.cj = true) ; ¬ ((a.s0 = 1) ∧ (c.s0 ≠ 1)) ; ¬ ((a.s0 = 1) ∧ (c.s0 = 1)) ; ¬ ((a.s0 ≠ 1) ∧ (c.s0 = 1)) ; ¬ ((a.s0 ≠ 1) ∧ (c.s0 ≠ 1)) |
| 7 | 129 | assert0 | ¬ (c.n0 = 0) ; ¬ (c.cj = true) ; (a.cj = true) ; ¬ ((a.s0 = 1) ∧ (c.s0 ≠ 1)) ; ((a.s0 = 1) ∧ (c.s0 = 1)) ; ¬ (a.n0 = 1) |
| 8 | 128 | call | ¬ (c.n0 = 0) ; ¬ (c.cj = true) ; (a.cj = true) ; ¬ ((a.s0 = 1) ∧ (c.s0 ≠ 1)) ; ((a.s0 = 1) ∧ (c.s0 = 1)) ; (a.n0 = 1) |
| 9 | 126 | call | ¬ (c.n0 = 0) ; ¬ (c.cj = true) ; (a.cj = true) ; ((a.s0 = 1) ∧ (c.s0 ≠ 1)) |
| 10 | 131 | call | ¬ (c.n0 = 0) ; ¬ (c.cj = true) ; (a.cj = true) ; ¬ ((a.s0 = 1) ∧ (c.s0 ≠ 1)) ; ¬ ((a.s0 = 1) ∧ (c.s0 = 1)) ; ((a.s0 ≠ 1) ∧ (c.s0 = 1)) |
| 11 | 132 | assert0 | ¬ (c.n0 = 0) ; ¬ (c.cj = true) ; (a.cj = true) ; ¬ ((a.s0 = 1) ∧ (c.s0 ≠ 1)) ; ¬ ((a.s0 = 1) ∧ (c.s0 = 1)) ; ¬ ((a.s0 ≠ 1) ∧ (c.s0 = 1)) ; ((a.s0 ≠ 1) ∧ (c.s0 ≠ 1)) |
-/

/-- herk.hpp:142 -/
abbrev herk_plain.guard_1 (side : Filling) (a c : Mat) : Prop :=
  ¬ (c.n0 = 0) ∧ ¬ (c.cj = true) ∧ ¬ (a.cj = true) ∧ ¬ ((a.s0 ≠ 1) ∧ (c.s0 ≠ 1)) ∧ ¬ ((a.s0 ≠ 1) ∧ (c.s0 = 1)) ∧ ¬ ((a.s0 = 1) ∧ (c.s0 ≠ 1)) ∧ ((a.s0 = 1) ∧ (c.s0 = 1))

def herk_plain.call_1 {R : Type} [CRing R] (side : Filling) (alpha beta : R) (a c : Mat) : Call R :=
  Call.herk ⟨side.flip.char, 'N', (c.n0), (a.n1), alpha, (a.base), (legalLd (a.s1) (c.n0)), beta, (c.base), (c.s1)⟩

/-- herk.hpp:141 -/
abbrev herk_plain.guard_2 (side : Filling) (a c : Mat) : Prop :=
  ¬ (c.n0 = 0) ∧ ¬ (c.cj = true) ∧ ¬ (a.cj = true) ∧ ¬ ((a.s0 ≠ 1) ∧ (c.s0 ≠ 1)) ∧ ¬ ((a.s0 ≠ 1) ∧ (c.s0 = 1)) ∧ ((a.s0 = 1) ∧ (c.s0 ≠ 1))

/-- herk.hpp:139 -/
abbrev herk_plain.guard_3 (side : Filling) (a c : Mat) : Prop :=
  ¬ (c.n0 = 0) ∧ ¬ (c.cj = true) ∧ ¬ (a.cj = true) ∧ ¬ ((a.s0 ≠ 1) ∧ (c.s0 ≠ 1)) ∧ ((a.s0 ≠ 1) ∧ (c.s0 = 1)) ∧ ¬ (a.n0 = 1)

/-- herk.hpp:138 -/
abbrev herk_plain.guard_4 (side : Filling) (a c : Mat) : Prop :=
  ¬ (c.n0 = 0) ∧ ¬ (c.cj = true) ∧ ¬ (a.cj = true) ∧ ¬ ((a.s0 ≠ 1) ∧ (c.s0 ≠ 1)) ∧ ((a.s0 ≠ 1) ∧ (c.s0 = 1)) ∧ (a.n0 = 1)

def herk_plain.call_4 {R : Type} [CRing R] (side : Filling) (alpha beta : R) (a c : Mat) : Call R :=
  Call.herk ⟨side.char, 'N', (c.n0), (a.n1), alpha, (a.base), (legalLd (a.s1) (c.n0)), beta, (c.base), (c.s1)⟩

/-- herk.hpp:136 -/
abbrev herk_plain.guard_5 (side : Filling) (a c : Mat) : Prop :=
  ¬ (c.n0 = 0) ∧ ¬ (c.cj = true) ∧ ¬ (a.cj = true) ∧ ((a.s0 ≠ 1) ∧ (c.s0 ≠ 1))

def herk_plain.call_5 {R : Type} [CRing R] (side : Filling) (alpha beta : R) (a c : Mat) : Call R :=
  Call.herk ⟨side.char, 'C', (c.n0), (a.n1), alpha, (a.base), (legalLd (a.s0) (a.n1)), beta, (c.base), (c.s0)⟩

/-- herk.hpp:133 -/
abbrev herk_plain.guard_6 (side : Filling) (a c : Mat) : Prop :=
  ¬ (c.n0 = 0) ∧ ¬ (c.cj = true) ∧ (a.cj = true) ∧ ¬ ((a.s0 = 1) ∧ (c.s0 ≠ 1)) ∧ ¬ ((a.s0 = 1) ∧ (c.s0 = 1)) ∧ ¬ ((a.s0 ≠ 1) ∧ (c.s0 = 1)) ∧ ¬ ((a.s0 ≠ 1) ∧ (c.s0 ≠ 1))

/-- herk.hpp:129 -/
abbrev herk_plain.guard_7 (side : Filling) (a c : Mat) : Prop :=
  ¬ (c.n0 = 0) ∧ ¬ (c.cj = true) ∧ (a.cj = true) ∧ ¬ ((a.s0 = 1) ∧ (c.s0 ≠ 1)) ∧ ((a.s0 = 1) ∧ (c.s0 = 1)) ∧ ¬ (a.n0 = 1)

/-- herk.hpp:128 -/
abbrev herk_plain.guard_8 (side : Filling) (a c : Mat) : Prop :=
  ¬ (c.n0 = 0) ∧ ¬ (c.cj = true) ∧ (a.cj = true) ∧ ¬ ((a.s0 = 1) ∧ (c.s0 ≠ 1)) ∧ ((a.s0 = 1) ∧ (c.s0 = 1)) ∧ (a.n0 = 1)

def herk_plain.call_8 {R : Type} [CRing R] (side : Filling) (alpha beta : R) (a c : Mat) : Call R :=
  Call.herk ⟨side.char, 'N', (c.n0), (a.n1), alpha, (a.base), (legalLd (a.s1) (c.n0)), beta, (c.base), (c.s0)⟩

/-- herk.hpp:126 -/
abbrev herk_plain.guard_9 (side : Filling) (a c : Mat) : Prop :=
  ¬ (c.n0 = 0) ∧ ¬ (c.cj = true) ∧ (a.cj = true) ∧ ((a.s0 = 1) ∧ (c.s0 ≠ 1))

def herk_plain.call_9 {R : Type} [CRing R] (side : Filling) (alpha beta : R) (a c : Mat) : Call R :=
  Call.herk ⟨side.char, 'N', (c.n0), (a.n1), alpha, (a.base), (legalLd (a.s1) (c.n0)), beta, (c.base), (c.s0)⟩

/-- herk.hpp:131 -/
abbrev herk_plain.guard_10 (side : Filling) (a c : Mat) : Prop :=
  ¬ (c.n0 = 0) ∧ ¬ (c.cj = true) ∧ (a.cj = true) ∧ ¬ ((a.s0 = 1) ∧ (c.s0 ≠ 1)) ∧ ¬ ((a.s0 = 1) ∧ (c.s0 = 1)) ∧ ((a.s0 ≠ 1) ∧ (c.s0 = 1))

def herk_plain.call_10 {R : Type} [CRing R] (side : Filling) (alpha beta : R) (a c : Mat) : Call R :=
  Call.herk ⟨side.flip.char, 'C', (c.n0), (a.n1), alpha, (a.base), (legalLd (a.s0) (a.n1)), beta, (c.base), (c.s1)⟩

/-- herk.hpp:132 -/
abbrev herk_plain.guard_11 (side : Filling) (a c : Mat) : Prop :=
  ¬ (c.n0 = 0) ∧ ¬ (c.cj = true) ∧ (a.cj = true) ∧ ¬ ((a.s0 = 1) ∧ (c.s0 ≠ 1)) ∧ ¬ ((a.s0 = 1) ∧ (c.s0 = 1)) ∧ ¬ ((a.s0 ≠ 1) ∧ (c.s0 = 1)) ∧ ((a.s0 ≠ 1) ∧ (c.s0 ≠ 1))

def herk_plain {R : Type} [CRing R] (nd : Bool) (side : Filling) (alpha beta : R) (a c : Mat) : Outcome R :=
  if ¬ nd = true ∧ ¬ (a.n0 = c.n0) then
    .assertFail 0
  else
    if ¬ nd = true ∧ ¬ (c.n0 = c.n1) then
      .assertFail 0
    else
      if ¬ nd = true ∧ ¬ ((a.s0 = 1) ∨ (a.s1 = 1)) then
        .assertFail 0
      else
        if ¬ nd = true ∧ ¬ ((c.s0 = 1) ∨ (c.s1 = 1)) then
          .assertFail 0
        else
          if (c.n0 = 0) then
            .nop 0
          else
            if (c.cj = true) then
              .throw 0
            else
              if (a.cj = true) then
                if ((a.s0 = 1) ∧ (c.s0 ≠ 1)) then
                  .call 9 (herk_plain.call_9 side alpha beta a c)
                else
                  if ((a.s0 = 1) ∧ (c.s0 = 1)) then
                    if (a.n0 = 1) then
                      .call 8 (herk_plain.call_8 side alpha beta a c)
                    else
                      if nd = true then
                        .nop 0
                      else
                        .assertFail 7
                  else
                    if ((a.s0 ≠ 1) ∧ (c.s0 = 1)) then
                      .call 10 (herk_plain.call_10 side alpha beta a c)
                    else
                      if ((a.s0 ≠ 1) ∧ (c.s0 ≠ 1)) then
                        if nd = true then
                          .nop 0
                        else
                          .assertFail 11
                      else
                        if nd = true then
                          .nop 0
                        else
                          .assertFail 6
              else
                if ((a.s0 ≠ 1) ∧ (c.s0 ≠ 1)) then
                  .call 5 (herk_plain.call_5 side alpha beta a c)
                else
                  if ((a.s0 ≠ 1) ∧ (c.s0 = 1)) then
                    if (a.n0 = 1) then
                      .call 4 (herk_plain.call_4 side alpha beta a c)
                    else
                      if nd = true then
                        .nop 0
                      else
                        .assertFail 3
                  else
                    if ((a.s0 = 1) ∧ (c.s0 ≠ 1)) then
                      if nd = true then
                        .nop 0
                      else
                        .assertFail 2
                    else
                      if ((a.s0 = 1) ∧ (c.s0 = 1)) then
                        .call 1 (herk_plain.call_1 side alpha beta a c)
                      else
                        .nop 0

/-- case analysis principle for `herk_plain` (generated, checked by Lean) -/
theorem herk_plain.elim {R : Type} [CRing R] {nd : Bool} {side : Filling} {alpha beta : R} {a c : Mat} {t : Nat} {cl : Call R}
    (h : herk_plain nd side alpha beta a c = .call t cl) (P : Nat → Call R → Prop)
    (h1 : herk_plain.guard_1 side a c → P 1 (herk_plain.call_1 side alpha beta a c))
    (h4 : herk_plain.guard_4 side a c → P 4 (herk_plain.call_4 side alpha beta a c))
    (h5 : herk_plain.guard_5 side a c → P 5 (herk_plain.call_5 side alpha beta a c))
    (h8 : herk_plain.guard_8 side a c → P 8 (herk_plain.call_8 side alpha beta a c))
    (h9 : herk_plain.guard_9 side a c → P 9 (herk_plain.call_9 side alpha beta a c))
    (h10 : herk_plain.guard_10 side a c → P 10 (herk_plain.call_10 side alpha beta a c)) : P t cl := by
  unfold herk_plain at h
  exact ite_eq_elim h (fun _ h => nomatch h) fun _ h =>
  ite_eq_elim h (fun _ h => nomatch h) fun _ h =>
  ite_eq_elim h (fun _ h => nomatch h) fun _ h =>
  ite_eq_elim h (fun _ h => nomatch h) fun _ h =>
  ite_eq_elim h (fun _ h => nomatch h) fun c5 h =>
  ite_eq_elim h (fun _ h => nomatch h) fun c6 h =>
  ite_eq_elim h (fun c7 h =>
    ite_eq_elim h (fun c8 h => call_eq_elim h (h9 ⟨c5, c6, c7, c8⟩)) fun c8 h =>
    ite_eq_elim h (fun c9 h =>
      ite_eq_elim h (fun c10 h => call_eq_elim h (h8 ⟨c5, c6, c7, c8, c9, c10⟩)) fun _ h =>
      ite_eq_elim h (fun _ h => nomatch h) fun _ h =>
      nomatch h) fun c9 h =>
    ite_eq_elim h (fun c12 h => call_eq_elim h (h10 ⟨c5, c6, c7, c8, c9, c12⟩)) fun _ h =>
    ite_eq_elim h (fun _ h =>
      ite_eq_elim h (fun _ h => nomatch h) fun _ h =>
      nomatch h) fun _ h =>
    ite_eq_elim h (fun _ h => nomatch h) fun _ h =>
    nomatch h) fun c7 h =>
  ite_eq_elim h (fun c16 h => call_eq_elim h (h5 ⟨c5, c6, c7, c16⟩)) fun c16 h =>
  ite_eq_elim h (fun c17 h =>
    ite_eq_elim h (fun c18 h => call_eq_elim h (h4 ⟨c5, c6, c7, c16, c17, c18⟩)) fun _ h =>
    ite_eq_elim h (fun _ h => nomatch h) fun _ h =>
    nomatch h) fun c17 h =>
  ite_eq_elim h (fun _ h =>
    ite_eq_elim h (fun _ h => nomatch h) fun _ h =>
    nomatch h) fun c20 h =>
  ite_eq_elim h (fun c22 h => call_eq_elim h (h1 ⟨c5, c6, c7, c16, c17, c20, c22⟩)) fun _ h =>
  nomatch h

/-- which assertion fired when `herk_plain` aborts (generated, checked by Lean) -/
theorem herk_plain.elimAssert {R : Type} [CRing R] {nd : Bool} {side : Filling} {alpha beta : R} {a c : Mat} {t : Nat}
    (h : herk_plain nd side alpha beta a c = .assertFail t) (P : Prop)
    (hp0 : (¬ nd = true ∧ ¬ (a.n0 = c.n0)) → P)
    (hp1 : (¬ nd = true ∧ ¬ (c.n0 = c.n1)) → P)
    (hp2 : (¬ nd = true ∧ ¬ ((a.s0 = 1) ∨ (a.s1 = 1))) → P)
    (hp3 : (¬ nd = true ∧ ¬ ((c.s0 = 1) ∨ (c.s1 = 1))) → P)
    (ha2 : herk_plain.guard_2 side a c → P)
    (ha3 : herk_plain.guard_3 side a c → P)
    (ha6 : herk_plain.guard_6 side a c → P)
    (ha7 : herk_plain.guard_7 side a c → P)
    (ha11 : herk_plain.guard_11 side a c → P) : P := by
  unfold herk_plain at h
  exact ite_eq_elim h (fun c1 h => hp0 c1) fun _ h =>
  ite_eq_elim h (fun c2 h => hp1 c2) fun _ h =>
  ite_eq_elim h (fun c3 h => hp2 c3) fun _ h =>
  ite_eq_elim h (fun c4 h => hp3 c4) fun _ h =>
  ite_eq_elim h (fun _ h => nomatch h) fun c5 h =>
  ite_eq_elim h (fun _ h => nomatch h) fun c6 h =>
  ite_eq_elim h (fun c7 h =>
    ite_eq_elim h (fun _ h => nomatch h) fun c8 h =>
    ite_eq_elim h (fun c9 h =>
      ite_eq_elim h (fun _ h => nomatch h) fun c10 h =>
      ite_eq_elim h (fun _ h => nomatch h) fun _ h =>
      ha7 ⟨c5, c6, c7, c8, c9, c10⟩) fun c9 h =>
    ite_eq_elim h (fun _ h => nomatch h) fun c12 h =>
    ite_eq_elim h (fun c13 h =>
      ite_eq_elim h (fun _ h => nomatch h) fun _ h =>
      ha11 ⟨c5, c6, c7, c8, c9, c12, c13⟩) fun c13 h =>
    ite_eq_elim h (fun _ h => nomatch h) fun _ h =>
    ha6 ⟨c5, c6, c7, c8, c9, c12, c13⟩) fun c7 h =>
  ite_eq_elim h (fun _ h => nomatch h) fun c16 h =>
  ite_eq_elim h (fun c17 h =>
    ite_eq_elim h (fun _ h => nomatch h) fun c18 h =>
    ite_eq_elim h (fun _ h => nomatch h) fun _ h =>
    ha3 ⟨c5, c6, c7, c16, c17, c18⟩) fun c17 h =>
  ite_eq_elim h (fun c20 h =>
    ite_eq_elim h (fun _ h => nomatch h) fun _ h =>
    ha2 ⟨c5, c6, c7, c16, c17, c20⟩) fun _ h =>
  ite_eq_elim h (fun _ h => nomatch h) fun _ h =>
  nomatch h

/-! ### `herk` — herk.hpp:110
complex `herk(filling, alpha, a, beta, c)`: C := alpha A Aᴴ + beta C; a conjugated C is handled by one recursive call on hermitized(c) with the filling flipped

| ordinal | source line | kind | own guards |
|---|---|---|---|
| 1 | 142 | call | ¬ (c.n0 = 0) ; ¬ (c.cj = true) ; ¬ (a.cj = true) ; ¬ ((a.s0 ≠ 1) ∧ (c.s0 ≠ 1)) ; ¬ ((a.s0 ≠ 1) ∧ (c.s0 = 1)) ; ¬ ((a.s0 = 1) ∧ (c.s0 ≠ 1)) ; ((a.s0 = 1) ∧ (c.s0 = 1)) |
| 2 | 141 | assert0 | ¬ (c.n0 = 0) ; ¬ (c.cj = true) ; ¬ (a.cj = true) ; ¬ ((a.s0 ≠ 1) ∧ (c.s0 ≠ 1)) ; ¬ ((a.s0 ≠ 1) ∧ (c.s0 = 1)) ; ((a.s0 = 1) ∧ (c.s0 ≠ 1)) |
| 3 | 139 | assert0 | ¬ (c.n0 = 0) ; ¬ (c.cj = true) ; ¬ (a.cj = true) ; ¬ ((a.s0 ≠ 1) ∧ (c.s0 ≠ 1)) ; ((a.s0 ≠ 1) ∧ (c.s0 = 1)) ; ¬ (a.n0 = 1) |
| 4 | 138 | call | ¬ (c.n0 = 0) ; ¬ (c.cj = true) ; ¬ (a.cj = true) ; ¬ ((a.s0 ≠ 1) ∧ (c.s0 ≠ 1)) ; ((a.s0 ≠ 1) ∧ (c.s0 = 1)) ; (a.n0 = 1) |
| 5 | 136 | call | ¬ (c.n0 = 0) ; ¬ (c.cj = true) ; ¬ (a.cj = true) ; ((a.s0 ≠ 1) ∧ (c.s0 ≠ 1)) |
| 6 | 133 | assert0 | ¬ (c.n0 = 0) ; ¬ (c.cj = true) ; (a.cj = true) ; ¬ ((a.s0 = 1) ∧ (c.s0 ≠ 1)) ; ¬ ((a.s0 = 1) ∧ (c.s0 = 1)) ; ¬ ((a.s0 ≠ 1) ∧ (c.s0 = 1)) ; ¬ ((a.s0 ≠ 1) ∧ (c.s0 ≠ 1)) |
| 7 | 129 | assert0 | ¬ (c.n0 = 0) ; ¬ (c.cj = true) ; (a.cj = true) ; ¬ ((a.s0 = 1) ∧ (c.s0 ≠ 1)) ; ((a.s0 = 1) ∧ (c.s0 = 1)) ; ¬ (a.n0 = 1) |
| 8 | 128 | call | ¬ (c.n0 = 0) ; ¬ (c.cj = true) ; (a.cj = true) ; ¬ ((a.s0 = 1) ∧ (c.s0 ≠ 1)) ; ((a.s0 = 1) ∧ (c.s0 = 1)) ; (a.n0 = 1) |
| 9 | 126 | call | ¬ (c.n0 = 0) ; ¬ (c.cj = true) ; (a.cj = true) ; ((a.s0 = 1) ∧ (c.s0 ≠ 1)) |
| 10 | 131 | call | ¬ (c.n0 = 0) ; ¬ (c.cj = true) ; (a.cj = true) ; ¬ ((a.s0 = 1) ∧ (c.s0 ≠ 1)) ; ¬ ((a.s0 = 1) ∧ (c.s0 = 1)) ; ((a.s0 ≠ 1) ∧ (c.s0 = 1)) |
| 11 | 132 | assert0 | ¬ (c.n0 = 0) ; ¬ (c.cj = true) ; (a.cj = true) ; ¬ ((a.s0 = 1) ∧ (c.s0 ≠ 1)) ; ¬ ((a.s0 = 1) ∧ (c.s0 = 1)) ; ¬ ((a.s0 ≠ 1) ∧ (c.s0 = 1)) ; ((a.s0 ≠ 1) ∧ (c.s0 ≠ 1)) |
-/

/-- herk.hpp:142 -/
abbrev herk.guard_1 (side : Filling) (a c : Mat) : Prop :=
  ¬ (c.n0 = 0) ∧ ¬ (c.cj = true) ∧ ¬ (a.cj = true) ∧ ¬ ((a.s0 ≠ 1) ∧ (c.s0 ≠ 1)) ∧ ¬ ((a.s0 ≠ 1) ∧ (c.s0 = 1)) ∧ ¬ ((a.s0 = 1) ∧ (c.s0 ≠ 1)) ∧ ((a.s0 = 1) ∧ (c.s0 = 1))

def herk.call_1 {R : Type} [CRing R] (side : Filling) (alpha beta : R) (a c : Mat) : Call R :=
  Call.herk ⟨side.flip.char, 'N', (c.n0), (a.n1), alpha, (a.base), (legalLd (a.s1) (c.n0)), beta, (c.base), (c.s1)⟩

/-- herk.hpp:141 -/
abbrev herk.guard_2 (side : Filling) (a c : Mat) : Prop :=
  ¬ (c.n0 = 0) ∧ ¬ (c.cj = true) ∧ ¬ (a.cj = true) ∧ ¬ ((a.s0 ≠ 1) ∧ (c.s0 ≠ 1)) ∧ ¬ ((a.s0 ≠ 1) ∧ (c.s0 = 1)) ∧ ((a.s0 = 1) ∧ (c.s0 ≠ 1))

/-- herk.hpp:139 -/
abbrev herk.guard_3 (side : Filling) (a c : Mat) : Prop :=
  ¬ (c.n0 = 0) ∧ ¬ (c.cj = true) ∧ ¬ (a.cj = true) ∧ ¬ ((a.s0 ≠ 1) ∧ (c.s0 ≠ 1)) ∧ ((a.s0 ≠ 1) ∧ (c.s0 = 1)) ∧ ¬ (a.n0 = 1)

/-- herk.hpp:138 -/
abbrev herk.guard_4 (side : Filling) (a c : Mat) : Prop :=
  ¬ (c.n0 = 0) ∧ ¬ (c.cj = true) ∧ ¬ (a.cj = true) ∧ ¬ ((a.s0 ≠ 1) ∧ (c.s0 ≠ 1)) ∧ ((a.s0 ≠ 1) ∧ (c.s0 = 1)) ∧ (a.n0 = 1)

def herk.call_4 {R : Type} [CRing R] (side : Filling) (alpha beta : R) (a c : Mat) : Call R :=
  Call.herk ⟨side.char, 'N', (c.n0), (a.n1), alpha, (a.base), (legalLd (a.s1) (c.n0)), beta, (c.base), (c.s1)⟩

/-- herk.hpp:136 -/
abbrev herk.guard_5 (side : Filling) (a c : Mat) : Prop :=
  ¬ (c.n0 = 0) ∧ ¬ (c.cj = true) ∧ ¬ (a.cj = true) ∧ ((a.s0 ≠ 1) ∧ (c.s0 ≠ 1))

def herk.call_5 {R : Type} [CRing R] (side : Filling) (alpha beta : R) (a c : Mat) : Call R :=
  Call.herk ⟨side.char, 'C', (c.n0), (a.n1), alpha, (a.base), (legalLd (a.s0) (a.n1)), beta, (c.base), (c.s0)⟩

/-- herk.hpp:133 -/
abbrev herk.guard_6 (side : Filling) (a c : Mat) : Prop :=
  ¬ (c.n0 = 0) ∧ ¬ (c.cj = true) ∧ (a.cj = true) ∧ ¬ ((a.s0 = 1) ∧ (c.s0 ≠ 1)) ∧ ¬ ((a.s0 = 1) ∧ (c.s0 = 1)) ∧ ¬ ((a.s0 ≠ 1) ∧ (c.s0 = 1)) ∧ ¬ ((a.s0 ≠ 1) ∧ (c.s0 ≠ 1))

/-- herk.hpp:129 -/
abbrev herk.guard_7 (side : Filling) (a c : Mat) : Prop :=
  ¬ (c.n0 = 0) ∧ ¬ (c.cj = true) ∧ (a.cj = true) ∧ ¬ ((a.s0 = 1) ∧ (c.s0 ≠ 1)) ∧ ((a.s0 = 1) ∧ (c.s0 = 1)) ∧ ¬ (a.n0 = 1)

/-- herk.hpp:128 -/
abbrev herk.guard_8 (side : Filling) (a c : Mat) : Prop :=
  ¬ (c.n0 = 0) ∧ ¬ (c.cj = true) ∧ (a.cj = true) ∧ ¬ ((a.s0 = 1) ∧ (c.s0 ≠ 1)) ∧ ((a.s0 = 1) ∧ (c.s0 = 1)) ∧ (a.n0 = 1)

def herk.call_8 {R : Type} [CRing R] (side : Filling) (alpha beta : R) (a c : Mat) : Call R :=
  Call.herk ⟨side.char, 'N', (c.n0), (a.n1), alpha, (a.base), (legalLd (a.s1) (c.n0)), beta, (c.base), (c.s0)⟩

/-- herk.hpp:126 -/
abbrev herk.guard_9 (side : Filling) (a c : Mat) : Prop :=
  ¬ (c.n0 = 0) ∧ ¬ (c.cj = true) ∧ (a.cj = true) ∧ ((a.s0 = 1) ∧ (c.s0 ≠ 1))

def herk.call_9 {R : Type} [CRing R] (side : Filling) (alpha beta : R) (a c : Mat) : Call R :=
  Call.herk ⟨side.char, 'N', (c.n0), (a.n1), alpha, (a.base), (legalLd (a.s1) (c.n0)), beta, (c.base), (c.s0)⟩

/-- herk.hpp:131 -/
abbrev herk.guard_10 (side : Filling) (a c : Mat) : Prop :=
  ¬ (c.n0 = 0) ∧ ¬ (c.cj = true) ∧ (a.cj = true) ∧ ¬ ((a.s0 = 1) ∧ (c.s0 ≠ 1)) ∧ ¬ ((a.s0 = 1) ∧ (c.s0 = 1)) ∧ ((a.s0 ≠ 1) ∧ (c.s0 = 1))

def herk.call_10 {R : Type} [CRing R] (side : Filling) (alpha beta : R) (a c : Mat) : Call R :=
  Call.herk ⟨side.flip.char, 'C', (c.n0), (a.n1), alpha, (a.base), (legalLd (a.s0) (a.n1)), beta, (c.base), (c.s1)⟩

/-- herk.hpp:132 -/
abbrev herk.guard_11 (side : Filling) (a c : Mat) : Prop :=
  ¬ (c.n0 = 0) ∧ ¬ (c.cj = true) ∧ (a.cj = true) ∧ ¬ ((a.s0 = 1) ∧ (c.s0 ≠ 1)) ∧ ¬ ((a.s0 = 1) ∧ (c.s0 = 1)) ∧ ¬ ((a.s0 ≠ 1) ∧ (c.s0 = 1)) ∧ ((a.s0 ≠ 1) ∧ (c.s0 ≠ 1))

def herk {R : Type} [CRing R] (nd : Bool) (side : Filling) (alpha beta : R) (a c : Mat) : Outcome R :=
  if ¬ nd = true ∧ ¬ (a.n0 = c.n0) then
    .assertFail 0
  else
    if ¬ nd = true ∧ ¬ (c.n0 = c.n1) then
      .assertFail 0
    else
      if ¬ nd = true ∧ ¬ ((a.s0 = 1) ∨ (a.s1 = 1)) then
        .assertFail 0
      else
        if ¬ nd = true ∧ ¬ ((c.s0 = 1) ∨ (c.s1 = 1)) then
          .assertFail 0
        else
          if (c.n0 = 0) then
            .nop 0
          else
            if (c.cj = true) then
              herk_plain nd side.flip alpha beta a c.conj.tr
            else
              if (a.cj = true) then
                if ((a.s0 = 1) ∧ (c.s0 ≠ 1)) then
                  .call 9 (herk.call_9 side alpha beta a c)
                else
                  if ((a.s0 = 1) ∧ (c.s0 = 1)) then
                    if (a.n0 = 1) then
                      .call 8 (herk.call_8 side alpha beta a c)
                    else
                      if nd = true then
                        .nop 0
                      else
                        .assertFail 7
                  else
                    if ((a.s0 ≠ 1) ∧ (c.s0 = 1)) then
                      .call 10 (herk.call_10 side alpha beta a c)
                    else
                      if ((a.s0 ≠ 1) ∧ (c.s0 ≠ 1)) then
                        if nd = true then
                          .nop 0
                        else
                          .assertFail 11
                      else
                        if nd = true then
                          .nop 0
                        else
                          .assertFail 6
              else
                if ((a.s0 ≠ 1) ∧ (c.s0 ≠ 1)) then
                  .call 5 (herk.call_5 side alpha beta a c)
                else
                  if ((a.s0 ≠ 1) ∧ (c.s0 = 1)) then
                    if (a.n0 = 1) then
                      .call 4 (herk.call_4 side alpha beta a c)
                    else
                      if nd = true then
                        .nop 0
                      else
                        .assertFail 3
                  else
                    if ((a.s0 = 1) ∧ (c.s0 ≠ 1)) then
                      if nd = true then
                        .nop 0
                      else
                        .assertFail 2
                    else
                      if ((a.s0 = 1) ∧ (c.s0 = 1)) then
                        .call 1 (herk.call_1 side alpha beta a c)
                      else
                        .nop 0

/-- case analysis principle for `herk` (generated, checked by Lean) -/
theorem herk.elim {R : Type} [CRing R] {nd : Bool} {side : Filling} {alpha beta : R} {a c : Mat} {t : Nat} {cl : Call R}
    (h : herk nd side alpha beta a c = .call t cl) (P : Nat → Call R → Prop)
    (h1 : herk.guard_1 side a c → P 1 (herk.call_1 side alpha beta a c))
    (h4 : herk.guard_4 side a c → P 4 (herk.call_4 side alpha beta a c))
    (h5 : herk.guard_5 side a c → P 5 (herk.call_5 side alpha beta a c))
    (h8 : herk.guard_8 side a c → P 8 (herk.call_8 side alpha beta a c))
    (h9 : herk.guard_9 side a c → P 9 (herk.call_9 side alpha beta a c))
    (h10 : herk.guard_10 side a c → P 10 (herk.call_10 side alpha beta a c))
    (hrec0 : herk_plain nd side.flip alpha beta a c.conj.tr = Outcome.call t cl → P t cl) : P t cl := by
  unfold herk at h
  exact ite_eq_elim h (fun _ h => nomatch h) fun _ h =>
  ite_eq_elim h (fun _ h => nomatch h) fun _ h =>
  ite_eq_elim h (fun _ h => nomatch h) fun _ h =>
  ite_eq_elim h (fun _ h => nomatch h) fun _ h =>
  ite_eq_elim h (fun _ h => nomatch h) fun c5 h =>
  ite_eq_elim h (fun _ h => hrec0 h) fun c6 h =>
  ite_eq_elim h (fun c7 h =>
    ite_eq_elim h (fun c8 h => call_eq_elim h (h9 ⟨c5, c6, c7, c8⟩)) fun c8 h =>
    ite_eq_elim h (fun c9 h =>
      ite_eq_elim h (fun c10 h => call_eq_elim h (h8 ⟨c5, c6, c7, c8, c9, c10⟩)) fun _ h =>
      ite_eq_elim h (fun _ h => nomatch h) fun _ h =>
      nomatch h) fun c9 h =>
    ite_eq_elim h (fun c12 h => call_eq_elim h (h10 ⟨c5, c6, c7, c8, c9, c12⟩)) fun _ h =>
    ite_eq_elim h (fun _ h =>
      ite_eq_elim h (fun _ h => nomatch h) fun _ h =>
      nomatch h) fun _ h =>
    ite_eq_elim h (fun _ h => nomatch h) fun _ h =>
    nomatch h) fun c7 h =>
  ite_eq_elim h (fun c16 h => call_eq_elim h (h5 ⟨c5, c6, c7, c16⟩)) fun c16 h =>
  ite_eq_elim h (fun c17 h =>
    ite_eq_elim h (fun c18 h => call_eq_elim h (h4 ⟨c5, c6, c7, c16, c17, c18⟩)) fun _ h =>
    ite_eq_elim h (fun _ h => nomatch h) fun _ h =>
    nomatch h) fun c17 h =>
  ite_eq_elim h (fun _ h =>
    ite_eq_elim h (fun _ h => nomatch h) fun _ h =>
    nomatch h) fun c20 h =>
  ite_eq_elim h (fun c22 h => call_eq_elim h (h1 ⟨c5, c6, c7, c16, c17, c20, c22⟩)) fun _ h =>
  nomatch h

/-! ### `trsm` — trsm.hpp:82
solves op(tri A) X = alpha B / X op(tri A) = alpha B in place

| ordinal | source line | kind | own guards |
|---|---|---|---|
| 1 | 108 | assert0 | (b.n0 ≠ 0) ; ¬ (¬ (a.cj = true) ∧ ¬ (b.cj = true)) ; ¬ ((a.cj = true) ∧ ¬ (b.cj = true)) ; ¬ ((b.cj = true) ∧ ¬ (a.cj = true)) ; ((a.cj = true) ∧ (b.cj = true)) ; ¬ ((a.s0 = 1) ∧ (b.s1 = 1)) ; ¬ ((a.s1 = 1) ∧ (b.s0 = 1)) |
| 2 | 106 | call | (b.n0 ≠ 0) ; ¬ (¬ (a.cj = true) ∧ ¬ (b.cj = true)) ; ¬ ((a.cj = true) ∧ ¬ (b.cj = true)) ; ¬ ((b.cj = true) ∧ ¬ (a.cj = true)) ; ((a.cj = true) ∧ (b.cj = true)) ; ((a.s0 = 1) ∧ (b.s1 = 1)) |
| 3 | 107 | call | (b.n0 ≠ 0) ; ¬ (¬ (a.cj = true) ∧ ¬ (b.cj = true)) ; ¬ ((a.cj = true) ∧ ¬ (b.cj = true)) ; ¬ ((b.cj = true) ∧ ¬ (a.cj = true)) ; ((a.cj = true) ∧ (b.cj = true)) ; ¬ ((a.s0 = 1) ∧ (b.s1 = 1)) ; ((a.s1 = 1) ∧ (b.s0 = 1)) |
| 4 | 100 | assert0 | (b.n0 ≠ 0) ; ¬ (¬ (a.cj = true) ∧ ¬ (b.cj = true)) ; ((a.cj = true) ∧ ¬ (b.cj = true)) ; ¬ ((a.s0 = 1) ∧ (b.s1 = 1)) ; ¬ ((a.s1 = 1) ∧ (b.s0 = 1)) |
| 5 | 98 | call | (b.n0 ≠ 0) ; ¬ (¬ (a.cj = true) ∧ ¬ (b.cj = true)) ; ((a.cj = true) ∧ ¬ (b.cj = true)) ; ((a.s0 = 1) ∧ (b.s1 = 1)) |
| 6 | 99 | call | (b.n0 ≠ 0) ; ¬ (¬ (a.cj = true) ∧ ¬ (b.cj = true)) ; ((a.cj = true) ∧ ¬ (b.cj = true)) ; ¬ ((a.s0 = 1) ∧ (b.s1 = 1)) ; ((a.s1 = 1) ∧ (b.s0 = 1)) |
| 7 | 104 | assert0 | (b.n0 ≠ 0) ; ¬ (¬ (a.cj = true) ∧ ¬ (b.cj = true)) ; ¬ ((a.cj = true) ∧ ¬ (b.cj = true)) ; ((b.cj = true) ∧ ¬ (a.cj = true)) ; ¬ ((a.s1 = 1) ∧ (b.s0 = 1)) |
| 8 | 102 | call | (b.n0 ≠ 0) ; ¬ (¬ (a.cj = true) ∧ ¬ (b.cj = true)) ; ¬ ((a.cj = true) ∧ ¬ (b.cj = true)) ; ((b.cj = true) ∧ ¬ (a.cj = true)) ; ((a.s1 = 1) ∧ (b.s0 = 1)) |
| 9 | 96 | assert0 | (b.n0 ≠ 0) ; (¬ (a.cj = true) ∧ ¬ (b.cj = true)) ; ¬ ((a.s0 = 1) ∧ (b.s0 = 1)) ; ¬ ((a.s1 = 1) ∧ (b.s1 = 1)) ; ¬ ((a.s0 = 1) ∧ (b.s1 = 1)) ; ¬ ((a.s1 = 1) ∧ (b.s0 = 1)) |
| 10 | 92 | call | (b.n0 ≠ 0) ; (¬ (a.cj = true) ∧ ¬ (b.cj = true)) ; ((a.s0 = 1) ∧ (b.s0 = 1)) |
| 11 | 94 | call | (b.n0 ≠ 0) ; (¬ (a.cj = true) ∧ ¬ (b.cj = true)) ; ¬ ((a.s0 = 1) ∧ (b.s0 = 1)) ; ¬ ((a.s1 = 1) ∧ (b.s1 = 1)) ; ((a.s0 = 1) ∧ (b.s1 = 1)) |
| 12 | 95 | call | (b.n0 ≠ 0) ; (¬ (a.cj = true) ∧ ¬ (b.cj = true)) ; ¬ ((a.s0 = 1) ∧ (b.s0 = 1)) ; ¬ ((a.s1 = 1) ∧ (b.s1 = 1)) ; ¬ ((a.s0 = 1) ∧ (b.s1 = 1)) ; ((a.s1 = 1) ∧ (b.s0 = 1)) |
| 13 | 93 | call | (b.n0 ≠ 0) ; (¬ (a.cj = true) ∧ ¬ (b.cj = true)) ; ¬ ((a.s0 = 1) ∧ (b.s0 = 1)) ; ((a.s1 = 1) ∧ (b.s1 = 1)) |
-/

/-- trsm.hpp:108 -/
abbrev trsm.guard_1 (side : Side) (fill : Filling) (diag : Diag) (a b : Mat) : Prop :=
  (b.n0 ≠ 0) ∧ ¬ (¬ (a.cj = true) ∧ ¬ (b.cj = true)) ∧ ¬ ((a.cj = true) ∧ ¬ (b.cj = true)) ∧ ¬ ((b.cj = true) ∧ ¬ (a.cj = true)) ∧ ((a.cj = true) ∧ (b.cj = true)) ∧ ¬ ((a.s0 = 1) ∧ (b.s1 = 1)) ∧ ¬ ((a.s1 = 1) ∧ (b.s0 = 1))

/-- trsm.hpp:106 -/
abbrev trsm.guard_2 (side : Side) (fill : Filling) (diag : Diag) (a b : Mat) : Prop :=
  (b.n0 ≠ 0) ∧ ¬ (¬ (a.cj = true) ∧ ¬ (b.cj = true)) ∧ ¬ ((a.cj = true) ∧ ¬ (b.cj = true)) ∧ ¬ ((b.cj = true) ∧ ¬ (a.cj = true)) ∧ ((a.cj = true) ∧ (b.cj = true)) ∧ ((a.s0 = 1) ∧ (b.s1 = 1))

def trsm.call_2 {R : Type} [CRing R] (side : Side) (fill : Filling) (diag : Diag) (alpha : R) (a b : Mat) : Call R :=
  Call.trsm ⟨side.swap.char, fill.flip.char, 'T', diag.char, (b.n1), (b.n0), (CRing.conj alpha), (a.base), (a.s1), (b.base), (legalLd (b.s0) (b.n1))⟩

/-- trsm.hpp:107 -/
abbrev trsm.guard_3 (side : Side) (fill : Filling) (diag : Diag) (a b : Mat) : Prop :=
  (b.n0 ≠ 0) ∧ ¬ (¬ (a.cj = true) ∧ ¬ (b.cj = true)) ∧ ¬ ((a.cj = true) ∧ ¬ (b.cj = true)) ∧ ¬ ((b.cj = true) ∧ ¬ (a.cj = true)) ∧ ((a.cj = true) ∧ (b.cj = true)) ∧ ¬ ((a.s0 = 1) ∧ (b.s1 = 1)) ∧ ((a.s1 = 1) ∧ (b.s0 = 1))

def trsm.call_3 {R : Type} [CRing R] (side : Side) (fill : Filling) (diag : Diag) (alpha : R) (a b : Mat) : Call R :=
  Call.trsm ⟨side.char, fill.char, 'T', diag.char, (b.n0), (b.n1), (CRing.conj alpha), (a.base), (a.s0), (b.base), (legalLd (b.s1) (b.n0))⟩

/-- trsm.hpp:100 -/
abbrev trsm.guard_4 (side : Side) (fill : Filling) (diag : Diag) (a b : Mat) : Prop :=
  (b.n0 ≠ 0) ∧ ¬ (¬ (a.cj = true) ∧ ¬ (b.cj = true)) ∧ ((a.cj = true) ∧ ¬ (b.cj = true)) ∧ ¬ ((a.s0 = 1) ∧ (b.s1 = 1)) ∧ ¬ ((a.s1 = 1) ∧ (b.s0 = 1))

/-- trsm.hpp:98 -/
abbrev trsm.guard_5 (side : Side) (fill : Filling) (diag : Diag) (a b : Mat) : Prop :=
  (b.n0 ≠ 0) ∧ ¬ (¬ (a.cj = true) ∧ ¬ (b.cj = true)) ∧ ((a.cj = true) ∧ ¬ (b.cj = true)) ∧ ((a.s0 = 1) ∧ (b.s1 = 1))

def trsm.call_5 {R : Type} [CRing R] (side : Side) (fill : Filling) (diag : Diag) (alpha : R) (a b : Mat) : Call R :=
  Call.trsm ⟨side.swap.char, fill.flip.char, 'C', diag.char, (b.n1), (b.n0), alpha, (a.base), (a.s1), (b.base), (legalLd (b.s0) (b.n1))⟩

/-- trsm.hpp:99 -/
abbrev trsm.guard_6 (side : Side) (fill : Filling) (diag : Diag) (a b : Mat) : Prop :=
  (b.n0 ≠ 0) ∧ ¬ (¬ (a.cj = true) ∧ ¬ (b.cj = true)) ∧ ((a.cj = true) ∧ ¬ (b.cj = true)) ∧ ¬ ((a.s0 = 1) ∧ (b.s1 = 1)) ∧ ((a.s1 = 1) ∧ (b.s0 = 1))

def trsm.call_6 {R : Type} [CRing R] (side : Side) (fill : Filling) (diag : Diag) (alpha : R) (a b : Mat) : Call R :=
  Call.trsm ⟨side.char, fill.char, 'C', diag.char, (b.n0), (b.n1), alpha, (a.base), (a.s0), (b.base), (legalLd (b.s1) (b.n0))⟩

/-- trsm.hpp:104 -/
abbrev trsm.guard_7 (side : Side) (fill : Filling) (diag : Diag) (a b : Mat) : Prop :=
  (b.n0 ≠ 0) ∧ ¬ (¬ (a.cj = true) ∧ ¬ (b.cj = true)) ∧ ¬ ((a.cj = true) ∧ ¬ (b.cj = true)) ∧ ((b.cj = true) ∧ ¬ (a.cj = true)) ∧ ¬ ((a.s1 = 1) ∧ (b.s0 = 1))

/-- trsm.hpp:102 -/
abbrev trsm.guard_8 (side : Side) (fill : Filling) (diag : Diag) (a b : Mat) : Prop :=
  (b.n0 ≠ 0) ∧ ¬ (¬ (a.cj = true) ∧ ¬ (b.cj = true)) ∧ ¬ ((a.cj = true) ∧ ¬ (b.cj = true)) ∧ ((b.cj = true) ∧ ¬ (a.cj = true)) ∧ ((a.s1 = 1) ∧ (b.s0 = 1))

def trsm.call_8 {R : Type} [CRing R] (side : Side) (fill : Filling) (diag : Diag) (alpha : R) (a b : Mat) : Call R :=
  Call.trsm ⟨side.char, fill.char, 'C', diag.char, (b.n0), (b.n1), (CRing.conj alpha), (a.base), (a.s0), (b.base), (legalLd (b.s1) (b.n0))⟩

/-- trsm.hpp:96 -/
abbrev trsm.guard_9 (side : Side) (fill : Filling) (diag : Diag) (a b : Mat) : Prop :=
  (b.n0 ≠ 0) ∧ (¬ (a.cj = true) ∧ ¬ (b.cj = true)) ∧ ¬ ((a.s0 = 1) ∧ (b.s0 = 1)) ∧ ¬ ((a.s1 = 1) ∧ (b.s1 = 1)) ∧ ¬ ((a.s0 = 1) ∧ (b.s1 = 1)) ∧ ¬ ((a.s1 = 1) ∧ (b.s0 = 1))

/-- trsm.hpp:92 -/
abbrev trsm.guard_10 (side : Side) (fill : Filling) (diag : Diag) (a b : Mat) : Prop :=
  (b.n0 ≠ 0) ∧ (¬ (a.cj = true) ∧ ¬ (b.cj = true)) ∧ ((a.s0 = 1) ∧ (b.s0 = 1))

def trsm.call_10 {R : Type} [CRing R] (side : Side) (fill : Filling) (diag : Diag) (alpha : R) (a b : Mat) : Call R :=
  Call.trsm ⟨side.char, fill.flip.char, 'N', diag.char, (b.n0), (b.n1), alpha, (a.base), (a.s1), (b.base), (legalLd (b.s1) (b.n0))⟩

/-- trsm.hpp:94 -/
abbrev trsm.guard_11 (side : Side) (fill : Filling) (diag : Diag) (a b : Mat) : Prop :=
  (b.n0 ≠ 0) ∧ (¬ (a.cj = true) ∧ ¬ (b.cj = true)) ∧ ¬ ((a.s0 = 1) ∧ (b.s0 = 1)) ∧ ¬ ((a.s1 = 1) ∧ (b.s1 = 1)) ∧ ((a.s0 = 1) ∧ (b.s1 = 1))

def trsm.call_11 {R : Type} [CRing R] (side : Side) (fill : Filling) (diag : Diag) (alpha : R) (a b : Mat) : Call R :=
  Call.trsm ⟨side.swap.char, fill.flip.char, 'T', diag.char, (b.n1), (b.n0), alpha, (a.base), (a.s1), (b.base), (legalLd (b.s0) (b.n1))⟩

/-- trsm.hpp:95 -/
abbrev trsm.guard_12 (side : Side) (fill : Filling) (diag : Diag) (a b : Mat) : Prop :=
  (b.n0 ≠ 0) ∧ (¬ (a.cj = true) ∧ ¬ (b.cj = true)) ∧ ¬ ((a.s0 = 1) ∧ (b.s0 = 1)) ∧ ¬ ((a.s1 = 1) ∧ (b.s1 = 1)) ∧ ¬ ((a.s0 = 1) ∧ (b.s1 = 1)) ∧ ((a.s1 = 1) ∧ (b.s0 = 1))

def trsm.call_12 {R : Type} [CRing R] (side : Side) (fill : Filling) (diag : Diag) (alpha : R) (a b : Mat) : Call R :=
  Call.trsm ⟨side.char, fill.char, 'T', diag.char, (b.n0), (b.n1), alpha, (a.base), (a.s0), (b.base), (legalLd (b.s1) (b.n0))⟩

/-- trsm.hpp:93 -/
abbrev trsm.guard_13 (side : Side) (fill : Filling) (diag : Diag) (a b : Mat) : Prop :=
  (b.n0 ≠ 0) ∧ (¬ (a.cj = true) ∧ ¬ (b.cj = true)) ∧ ¬ ((a.s0 = 1) ∧ (b.s0 = 1)) ∧ ((a.s1 = 1) ∧ (b.s1 = 1))

def trsm.call_13 {R : Type} [CRing R] (side : Side) (fill : Filling) (diag : Diag) (alpha : R) (a b : Mat) : Call R :=
  Call.trsm ⟨side.swap.char, fill.char, 'N', diag.char, (b.n1), (b.n0), alpha, (a.base), (a.s0), (b.base), (legalLd (b.s0) (b.n1))⟩

def trsm {R : Type} [CRing R] (nd : Bool) (side : Side) (fill : Filling) (diag : Diag) (alpha : R) (a b : Mat) : Outcome R :=
  if ¬ nd = true ∧ ¬ (¬ side = Side.left ∨ (a.n1 ≥ b.n0)) then
    .assertFail 0
  else
    if ¬ nd = true ∧ ¬ (¬ side = Side.right ∨ (a.n0 ≥ b.n1)) then
      .assertFail 0
    else
      if ¬ nd = true ∧ ¬ ((a.s0 = 1) ∨ (a.s1 = 1)) then
        .assertFail 0
      else
        if ¬ nd = true ∧ ¬ ((b.s0 = 1) ∨ (b.s1 = 1)) then
          .assertFail 0
        else
          if (b.n0 ≠ 0) then
            if (¬ (a.cj = true) ∧ ¬ (b.cj = true)) then
              if ((a.s0 = 1) ∧ (b.s0 = 1)) then
                .call 10 (trsm.call_10 side fill diag alpha a b)
              else
                if ((a.s1 = 1) ∧ (b.s1 = 1)) then
                  .call 13 (trsm.call_13 side fill diag alpha a b)
                else
                  if ((a.s0 = 1) ∧ (b.s1 = 1)) then
                    .call 11 (trsm.call_11 side fill diag alpha a b)
                  else
                    if ((a.s1 = 1) ∧ (b.s0 = 1)) then
                      .call 12 (trsm.call_12 side fill diag alpha a b)
                    else
                      if nd = true then
                        .nop 0
                      else
                        .assertFail 9
            else
              if ((a.cj = true) ∧ ¬ (b.cj = true)) then
                if ((a.s0 = 1) ∧ (b.s1 = 1)) then
                  .call 5 (trsm.call_5 side fill diag alpha a b)
                else
                  if ((a.s1 = 1) ∧ (b.s0 = 1)) then
                    .call 6 (trsm.call_6 side fill diag alpha a b)
                  else
                    if nd = true then
                      .nop 0
                    else
                      .assertFail 4
              else
                if ((b.cj = true) ∧ ¬ (a.cj = true)) then
                  if ((a.s1 = 1) ∧ (b.s0 = 1)) then
                    .call 8 (trsm.call_8 side fill diag alpha a b)
                  else
                    if nd = true then
                      .nop 0
                    else
                      .assertFail 7
                else
                  if ((a.cj = true) ∧ (b.cj = true)) then
                    if ((a.s0 = 1) ∧ (b.s1 = 1)) then
                      .call 2 (trsm.call_2 side fill diag alpha a b)
                    else
                      if ((a.s1 = 1) ∧ (b.s0 = 1)) then
                        .call 3 (trsm.call_3 side fill diag alpha a b)
                      else
                        if nd = true then
                          .nop 0
                        else
                          .assertFail 1
                  else
                    .nop 0
          else
            .nop 0

/-- case analysis principle for `trsm` (generated, checked by Lean) -/
theorem trsm.elim {R : Type} [CRing R] {nd : Bool} {side : Side} {fill : Filling} {diag : Diag} {alpha : R} {a b : Mat} {t : Nat} {cl : Call R}
    (h : trsm nd side fill diag alpha a b = .call t cl) (P : Nat → Call R → Prop)
    (h2 : trsm.guard_2 side fill diag a b → P 2 (trsm.call_2 side fill diag alpha a b))
    (h3 : trsm.guard_3 side fill diag a b → P 3 (trsm.call_3 side fill diag alpha a b))
    (h5 : trsm.guard_5 side fill diag a b → P 5 (trsm.call_5 side fill diag alpha a b))
    (h6 : trsm.guard_6 side fill diag a b → P 6 (trsm.call_6 side fill diag alpha a b))
    (h8 : trsm.guard_8 side fill diag a b → P 8 (trsm.call_8 side fill diag alpha a b))
    (h10 : trsm.guard_10 side fill diag a b → P 10 (trsm.call_10 side fill diag alpha a b))
    (h11 : trsm.guard_11 side fill diag a b → P 11 (trsm.call_11 side fill diag alpha a b))
    (h12 : trsm.guard_12 side fill diag a b → P 12 (trsm.call_12 side fill diag alpha a b))
    (h13 : trsm.guard_13 side fill diag a b → P 13 (trsm.call_13 side fill diag alpha a b)) : P t cl := by
  unfold trsm at h
  exact ite_eq_elim h (fun _ h => nomatch h) fun _ h =>
  ite_eq_elim h (fun _ h => nomatch h) fun _ h =>
  ite_eq_elim h (fun _ h => nomatch h) fun _ h =>
  ite_eq_elim h (fun _ h => nomatch h) fun _ h =>
  ite_eq_elim h (fun c5 h =>
    ite_eq_elim h (fun c6 h =>
      ite_eq_elim h (fun c7 h => call_eq_elim h (h10 ⟨c5, c6, c7⟩)) fun c7 h =>
      ite_eq_elim h (fun c8 h => call_eq_elim h (h13 ⟨c5, c6, c7, c8⟩)) fun c8 h =>
      ite_eq_elim h (fun c9 h => call_eq_elim h (h11 ⟨c5, c6, c7, c8, c9⟩)) fun c9 h =>
      ite_eq_elim h (fun c10 h => call_eq_elim h (h12 ⟨c5, c6, c7, c8, c9, c10⟩)) fun _ h =>
      ite_eq_elim h (fun _ h => nomatch h) fun _ h =>
      nomatch h) fun c6 h =>
    ite_eq_elim h (fun c12 h =>
      ite_eq_elim h (fun c13 h => call_eq_elim h (h5 ⟨c5, c6, c12, c13⟩)) fun c13 h =>
      ite_eq_elim h (fun c14 h => call_eq_elim h (h6 ⟨c5, c6, c12, c13, c14⟩)) fun _ h =>
      ite_eq_elim h (fun _ h => nomatch h) fun _ h =>
      nomatch h) fun c12 h =>
    ite_eq_elim h (fun c16 h =>
      ite_eq_elim h (fun c17 h => call_eq_elim h (h8 ⟨c5, c6, c12, c16, c17⟩)) fun _ h =>
      ite_eq_elim h (fun _ h => nomatch h) fun _ h =>
      nomatch h) fun c16 h =>
    ite_eq_elim h (fun c19 h =>
      ite_eq_elim h (fun c20 h => call_eq_elim h (h2 ⟨c5, c6, c12, c16, c19, c20⟩)) fun c20 h =>
      ite_eq_elim h (fun c21 h => call_eq_elim h (h3 ⟨c5, c6, c12, c16, c19, c20, c21⟩)) fun _ h =>
      ite_eq_elim h (fun _ h => nomatch h) fun _ h =>
      nomatch h) fun _ h =>
    nomatch h) fun _ h =>
  nomatch h

/-- which assertion fired when `trsm` aborts (generated, checked by Lean) -/
theorem trsm.elimAssert {R : Type} [CRing R] {nd : Bool} {side : Side} {fill : Filling} {diag : Diag} {alpha : R} {a b : Mat} {t : Nat}
    (h : trsm nd side fill diag alpha a b = .assertFail t) (P : Prop)
    (hp0 : (¬ nd = true ∧ ¬ (¬ side = Side.left ∨ (a.n1 ≥ b.n0))) → P)
    (hp1 : (¬ nd = true ∧ ¬ (¬ side = Side.right ∨ (a.n0 ≥ b.n1))) → P)
    (hp2 : (¬ nd = true ∧ ¬ ((a.s0 = 1) ∨ (a.s1 = 1))) → P)
    (hp3 : (¬ nd = true ∧ ¬ ((b.s0 = 1) ∨ (b.s1 = 1))) → P)
    (ha1 : trsm.guard_1 side fill diag a b → P)
    (ha4 : trsm.guard_4 side fill diag a b → P)
    (ha7 : trsm.guard_7 side fill diag a b → P)
    (ha9 : trsm.guard_9 side fill diag a b → P) : P := by
  unfold trsm at h
  exact ite_eq_elim h (fun c1 h => hp0 c1) fun _ h =>
  ite_eq_elim h (fun c2 h => hp1 c2) fun _ h =>
  ite_eq_elim h (fun c3 h => hp2 c3) fun _ h =>
  ite_eq_elim h (fun c4 h => hp3 c4) fun _ h =>
  ite_eq_elim h (fun c5 h =>
    ite_eq_elim h (fun c6 h =>
      ite_eq_elim h (fun _ h => nomatch h) fun c7 h =>
      ite_eq_elim h (fun _ h => nomatch h) fun c8 h =>
      ite_eq_elim h (fun _ h => nomatch h) fun c9 h =>
      ite_eq_elim h (fun _ h => nomatch h) fun c10 h =>
      ite_eq_elim h (fun _ h => nomatch h) fun _ h =>
      ha9 ⟨c5, c6, c7, c8, c9, c10⟩) fun c6 h =>
    ite_eq_elim h (fun c12 h =>
      ite_eq_elim h (fun _ h => nomatch h) fun c13 h =>
      ite_eq_elim h (fun _ h => nomatch h) fun c14 h =>
      ite_eq_elim h (fun _ h => nomatch h) fun _ h =>
      ha4 ⟨c5, c6, c12, c13, c14⟩) fun c12 h =>
    ite_eq_elim h (fun c16 h =>
      ite_eq_elim h (fun _ h => nomatch h) fun c17 h =>
      ite_eq_elim h (fun _ h => nomatch h) fun _ h =>
      ha7 ⟨c5, c6, c12, c16, c17⟩) fun c16 h =>
    ite_eq_elim h (fun c19 h =>
      ite_eq_elim h (fun _ h => nomatch h) fun c20 h =>
      ite_eq_elim h (fun _ h => nomatch h) fun c21 h =>
      ite_eq_elim h (fun _ h => nomatch h) fun _ h =>
      ha1 ⟨c5, c6, c12, c16, c19, c20, c21⟩) fun _ h =>
    nomatch h) fun _ h =>
  nomatch h

/-! ### `axpy_n` — axpy.hpp:33
y := alpha x + y on n elements

| ordinal | source line | kind | own guards |
|---|---|---|---|
| 1 | 34 | call |  |
-/

/-- axpy.hpp:34 -/
abbrev axpy_n.guard_1 (x y : Vec) : Prop :=
  True

def axpy_n.call_1 {R : Type} [CRing R] (alpha : R) (n : Int) (x y : Vec) : Call R :=
  Call.axpy ⟨(n), alpha, (x.base), (x.inc), (y.base), (y.inc)⟩

def axpy_n {R : Type} [CRing R] (nd : Bool) (alpha : R) (n : Int) (x y : Vec) : Outcome R :=
  .call 1 (axpy_n.call_1 alpha n x y)

/-- case analysis principle for `axpy_n` (generated, checked by Lean) -/
theorem axpy_n.elim {R : Type} [CRing R] {nd : Bool} {alpha : R} {n : Int} {x y : Vec} {t : Nat} {cl : Call R}
    (h : axpy_n nd alpha n x y = .call t cl) (P : Nat → Call R → Prop)
    (h1 : axpy_n.guard_1 x y → P 1 (axpy_n.call_1 alpha n x y)) : P t cl := by
  unfold axpy_n at h
  exact call_eq_elim h (h1 trivial)

/-! ### `scal_n` — scal.hpp:20
x := alpha x

| ordinal | source line | kind | own guards |
|---|---|---|---|
| 1 | 22 | call |  |
-/

/-- scal.hpp:22 -/
abbrev scal_n.guard_1 (x : Vec) : Prop :=
  True

def scal_n.call_1 {R : Type} [CRing R] (alpha : R) (n : Int) (x : Vec) : Call R :=
  Call.scal ⟨(n), alpha, (x.base), (x.inc), 0, 0⟩

def scal_n {R : Type} [CRing R] (nd : Bool) (alpha : R) (n : Int) (x : Vec) : Outcome R :=
  .call 1 (scal_n.call_1 alpha n x)

/-- case analysis principle for `scal_n` (generated, checked by Lean) -/
theorem scal_n.elim {R : Type} [CRing R] {nd : Bool} {alpha : R} {n : Int} {x : Vec} {t : Nat} {cl : Call R}
    (h : scal_n nd alpha n x = .call t cl) (P : Nat → Call R → Prop)
    (h1 : scal_n.guard_1 x → P 1 (scal_n.call_1 alpha n x)) : P t cl := by
  unfold scal_n at h
  exact call_eq_elim h (h1 trivial)

/-! ### `copy_n` — copy.hpp:22
y := x

| ordinal | source line | kind | own guards |
|---|---|---|---|
| 1 | 23 | call |  |
-/

/-- copy.hpp:23 -/
abbrev copy_n.guard_1 (x y : Vec) : Prop :=
  True

def copy_n.call_1 {R : Type} [CRing R] (n : Int) (x y : Vec) : Call R :=
  Call.copy ⟨(n), 0, (x.base), (x.inc), (y.base), (y.inc)⟩

def copy_n {R : Type} [CRing R] (nd : Bool) (n : Int) (x y : Vec) : Outcome R :=
  .call 1 (copy_n.call_1 n x y)

/-- case analysis principle for `copy_n` (generated, checked by Lean) -/
theorem copy_n.elim {R : Type} [CRing R] {nd : Bool} {n : Int} {x y : Vec} {t : Nat} {cl : Call R}
    (h : copy_n nd n x y = .call t cl) (P : Nat → Call R → Prop)
    (h1 : copy_n.guard_1 x y → P 1 (copy_n.call_1 n x y)) : P t cl := by
  unfold copy_n at h
  exact call_eq_elim h (h1 trivial)

/-! ### `swap_n` — swap.hpp:16
x ↔ y

| ordinal | source line | kind | own guards |
|---|---|---|---|
| 1 | 17 | call |  |
-/

/-- swap.hpp:17 -/
abbrev swap_n.guard_1 (x y : Vec) : Prop :=
  True

def swap_n.call_1 {R : Type} [CRing R] (n : Int) (x y : Vec) : Call R :=
  Call.swap ⟨(n), 0, (x.base), (x.inc), (y.base), (y.inc)⟩

def swap_n {R : Type} [CRing R] (nd : Bool) (n : Int) (x y : Vec) : Outcome R :=
  .call 1 (swap_n.call_1 n x y)

/-- case analysis principle for `swap_n` (generated, checked by Lean) -/
theorem swap_n.elim {R : Type} [CRing R] {nd : Bool} {n : Int} {x y : Vec} {t : Nat} {cl : Call R}
    (h : swap_n nd n x y = .call t cl) (P : Nat → Call R → Prop)
    (h1 : swap_n.guard_1 x y → P 1 (swap_n.call_1 n x y)) : P t cl := by
  unfold swap_n at h
  exact call_eq_elim h (h1 trivial)

/-! ### `dot_n` — dot.hpp:19
selection of xDOT / xDOTU / xDOTC by element type and conjugation (xDOTC conjugates its FIRST argument)

| ordinal | source line | kind | own guards |
|---|---|---|---|
| 1 | 26 | throw | ¬ ¬ (cplx = true) ; ¬ (¬ (x.cj = true) ∧ ¬ (y.cj = true)) ; ¬ ((y.cj = true) ∧ ¬ (x.cj = true)) ; ¬ ((x.cj = true) ∧ ¬ (y.cj = true)) ; ((x.cj = true) ∧ (y.cj = true)) |
| 2 | 25 | call | ¬ ¬ (cplx = true) ; ¬ (¬ (x.cj = true) ∧ ¬ (y.cj = true)) ; ¬ ((y.cj = true) ∧ ¬ (x.cj = true)) ; ((x.cj = true) ∧ ¬ (y.cj = true)) |
| 3 | 24 | call | ¬ ¬ (cplx = true) ; ¬ (¬ (x.cj = true) ∧ ¬ (y.cj = true)) ; ((y.cj = true) ∧ ¬ (x.cj = true)) |
| 4 | 23 | call | ¬ ¬ (cplx = true) ; (¬ (x.cj = true) ∧ ¬ (y.cj = true)) |
| 5 | 21 | call | ¬ (cplx = true) |
-/

/-- dot.hpp:26 -/
abbrev dot_n.guard_1 (cplx : Bool) (x y : Vec) : Prop :=
  ¬ ¬ (cplx = true) ∧ ¬ (¬ (x.cj = true) ∧ ¬ (y.cj = true)) ∧ ¬ ((y.cj = true) ∧ ¬ (x.cj = true)) ∧ ¬ ((x.cj = true) ∧ ¬ (y.cj = true)) ∧ ((x.cj = true) ∧ (y.cj = true))

/-- dot.hpp:25 -/
abbrev dot_n.guard_2 (cplx : Bool) (x y : Vec) : Prop :=
  ¬ ¬ (cplx = true) ∧ ¬ (¬ (x.cj = true) ∧ ¬ (y.cj = true)) ∧ ¬ ((y.cj = true) ∧ ¬ (x.cj = true)) ∧ ((x.cj = true) ∧ ¬ (y.cj = true))

def dot_n.call_2 {R : Type} [CRing R] (n : Int) (x y : Vec) : Call R :=
  Call.dotc ⟨(n), 0, (x.base), (x.inc), (y.base), (y.inc)⟩

/-- dot.hpp:24 -/
abbrev dot_n.guard_3 (cplx : Bool) (x y : Vec) : Prop :=
  ¬ ¬ (cplx = true) ∧ ¬ (¬ (x.cj = true) ∧ ¬ (y.cj = true)) ∧ ((y.cj = true) ∧ ¬ (x.cj = true))

def dot_n.call_3 {R : Type} [CRing R] (n : Int) (x y : Vec) : Call R :=
  Call.dotc ⟨(n), 0, (y.base), (y.inc), (x.base), (x.inc)⟩

/-- dot.hpp:23 -/
abbrev dot_n.guard_4 (cplx : Bool) (x y : Vec) : Prop :=
  ¬ ¬ (cplx = true) ∧ (¬ (x.cj = true) ∧ ¬ (y.cj = true))

def dot_n.call_4 {R : Type} [CRing R] (n : Int) (x y : Vec) : Call R :=
  Call.dotu ⟨(n), 0, (x.base), (x.inc), (y.base), (y.inc)⟩

/-- dot.hpp:21 -/
abbrev dot_n.guard_5 (cplx : Bool) (x y : Vec) : Prop :=
  ¬ (cplx = true)

def dot_n.call_5 {R : Type} [CRing R] (n : Int) (x y : Vec) : Call R :=
  Call.dot ⟨(n), 0, (x.base), (x.inc), (y.base), (y.inc)⟩

def dot_n {R : Type} [CRing R] (nd : Bool) (cplx : Bool) (n : Int) (x y : Vec) : Outcome R :=
  if ¬ (cplx = true) then
    .call 5 (dot_n.call_5 n x y)
  else
    if (¬ (x.cj = true) ∧ ¬ (y.cj = true)) then
      .call 4 (dot_n.call_4 n x y)
    else
      if ((y.cj = true) ∧ ¬ (x.cj = true)) then
        .call 3 (dot_n.call_3 n x y)
      else
        if ((x.cj = true) ∧ ¬ (y.cj = true)) then
          .call 2 (dot_n.call_2 n x y)
        else
          if ((x.cj = true) ∧ (y.cj = true)) then
            .throw 1
          else
            .nop 0

/-- case analysis principle for `dot_n` (generated, checked by Lean) -/
theorem dot_n.elim {R : Type} [CRing R] {nd : Bool} {cplx : Bool} {n : Int} {x y : Vec} {t : Nat} {cl : Call R}
    (h : dot_n nd cplx n x y = .call t cl) (P : Nat → Call R → Prop)
    (h2 : dot_n.guard_2 cplx x y → P 2 (dot_n.call_2 n x y))
    (h3 : dot_n.guard_3 cplx x y → P 3 (dot_n.call_3 n x y))
    (h4 : dot_n.guard_4 cplx x y → P 4 (dot_n.call_4 n x y))
    (h5 : dot_n.guard_5 cplx x y → P 5 (dot_n.call_5 n x y)) : P t cl := by
  unfold dot_n at h
  exact ite_eq_elim h (fun c1 h => call_eq_elim h (h5 c1)) fun c1 h =>
  ite_eq_elim h (fun c2 h => call_eq_elim h (h4 ⟨c1, c2⟩)) fun c2 h =>
  ite_eq_elim h (fun c3 h => call_eq_elim h (h3 ⟨c1, c2, c3⟩)) fun c3 h =>
  ite_eq_elim h (fun c4 h => call_eq_elim h (h2 ⟨c1, c2, c3, c4⟩)) fun _ h =>
  ite_eq_elim h (fun _ h => nomatch h) fun _ h =>
  nomatch h

/-! ### `nrm2_n` — nrm2.hpp:23
reads the strided vector

| ordinal | source line | kind | own guards |
|---|---|---|---|
| 1 | 24 | call |  |
-/

/-- nrm2.hpp:24 -/
abbrev nrm2_n.guard_1 (x : Vec) : Prop :=
  True

def nrm2_n.call_1 {R : Type} [CRing R] (n : Int) (x : Vec) : Call R :=
  Call.nrm2 ⟨(n), 0, (x.base), (x.inc), 0, 0⟩

def nrm2_n {R : Type} [CRing R] (nd : Bool) (n : Int) (x : Vec) : Outcome R :=
  .call 1 (nrm2_n.call_1 n x)

/-- case analysis principle for `nrm2_n` (generated, checked by Lean) -/
theorem nrm2_n.elim {R : Type} [CRing R] {nd : Bool} {n : Int} {x : Vec} {t : Nat} {cl : Call R}
    (h : nrm2_n nd n x = .call t cl) (P : Nat → Call R → Prop)
    (h1 : nrm2_n.guard_1 x → P 1 (nrm2_n.call_1 n x)) : P t cl := by
  unfold nrm2_n at h
  exact call_eq_elim h (h1 trivial)

/-! ### `asum_n` — asum.hpp:15
reads the strided vector

| ordinal | source line | kind | own guards |
|---|---|---|---|
| 1 | 16 | call |  |
-/

/-- asum.hpp:16 -/
abbrev asum_n.guard_1 (x : Vec) : Prop :=
  True

def asum_n.call_1 {R : Type} [CRing R] (n : Int) (x : Vec) : Call R :=
  Call.asum ⟨(n), 0, (x.base), (x.inc), 0, 0⟩

def asum_n {R : Type} [CRing R] (nd : Bool) (n : Int) (x : Vec) : Outcome R :=
  .call 1 (asum_n.call_1 n x)

/-- case analysis principle for `asum_n` (generated, checked by Lean) -/
theorem asum_n.elim {R : Type} [CRing R] {nd : Bool} {n : Int} {x : Vec} {t : Nat} {cl : Call R}
    (h : asum_n nd n x = .call t cl) (P : Nat → Call R → Prop)
    (h1 : asum_n.guard_1 x → P 1 (asum_n.call_1 n x)) : P t cl := by
  unfold asum_n at h
  exact call_eq_elim h (h1 trivial)

/-! ### `iamax_n` — iamax.hpp:13
reads the strided vector

| ordinal | source line | kind | own guards |
|---|---|---|---|
| 1 | 15 | call |  |
-/

/-- iamax.hpp:15 -/
abbrev iamax_n.guard_1 (x : Vec) : Prop :=
  True

def iamax_n.call_1 {R : Type} [CRing R] (n : Int) (x : Vec) : Call R :=
  Call.iamax ⟨(n), 0, (x.base), (x.inc), 0, 0⟩

def iamax_n {R : Type} [CRing R] (nd : Bool) (n : Int) (x : Vec) : Outcome R :=
  .call 1 (iamax_n.call_1 n x)

/-- case analysis principle for `iamax_n` (generated, checked by Lean) -/
theorem iamax_n.elim {R : Type} [CRing R] {nd : Bool} {n : Int} {x : Vec} {t : Nat} {cl : Call R}
    (h : iamax_n nd n x = .call t cl) (P : Nat → Call R → Prop)
    (h1 : iamax_n.guard_1 x → P 1 (iamax_n.call_1 n x)) : P t cl := by
  unfold iamax_n at h
  exact call_eq_elim h (h1 trivial)

/-- core.hpp: every xGEMV call that implements `dot` (float) / `dotu` (complex) is preceded by `if(n == 0) {*rp = R{}; return;}` -/
def coreDotGemvGuardsEmpty : Bool := true

/-- gemm.hpp: the lazy `gemm(ctxtp, s, a, b)` asserts `size(~a) == size(b)` for a non-empty `a` -/
def gemmRangeChecksInner : Bool := true

end Multi.Blas.Gen
